import DiplomatModel.Sexp
import DiplomatModel.EnumGen
import DiplomatModel.Utf8
import DiplomatModel.Slices
import DiplomatModel.Write
import DiplomatModel.Config
import DiplomatModel.Cfg
import DiplomatModel.Rename
import DiplomatModel.Lower
import DiplomatModel.Lifetimes
import DiplomatModel.Panics
import DiplomatModel.JsLayout
import DiplomatModel.Own
import DiplomatModel.EnvOrder
import DiplomatModel.Idents
import DiplomatModel.AbiGen
import DiplomatModel.DartKt
import DiplomatModel.CppGen
import DiplomatModel.CppMethod
import DiplomatModel.Memory
import DiplomatModel.Wire
import DiplomatModel.JsSlot
import DiplomatModel.JsStr
import DiplomatModel.JsArena
import DiplomatModel.CppStr
import DiplomatModel.KtNative
