import DiplomatModel.Lifetimes
namespace DiplomatModel.Lifetimes

theorem dfs_sound (g : Graph) (a : Nat) (f : Nat) (st vis r : List Nat) (h : dfs g f st vis = some r)
    (hst : ∀ x ∈ st, Reach g a x) (hvis : ∀ x ∈ vis, Reach g a x) : ∀ x ∈ r, Reach g a x := by
  fun_induction dfs g f st vis with
  | case1 | case3 => cases h; exact hvis  -- the stack is empty: `vis` is returned
  | case2 => cases h  -- out of fuel
  | case4 f x st vis hx ih => exact ih h (fun y hy => hst y (List.mem_cons_of_mem _ hy)) hvis  -- `x` visited before
  | case5 f x st vis hx ih =>  -- `x` is new
    have hx' := hst x List.mem_cons_self
    exact ih h (List.forall_mem_append.mpr ⟨fun _ hy => hx'.step hy, fun y hy => hst y (List.mem_cons_of_mem _ hy)⟩)
      (List.forall_mem_cons.mpr ⟨hx', hvis⟩)

/-- every successor of a visited node is visited or waiting on the stack -/
def Closed (g : Graph) (vis st : List Nat) : Prop :=
  ∀ u ∈ vis, ∀ v ∈ succs g u, v ∈ vis ∨ v ∈ st

theorem Closed.skip {g : Graph} {vis st : List Nat} {y : Nat} (hc : Closed g vis (y :: st)) (hy : y ∈ vis) :
    Closed g vis st := fun u hu v hv =>
  (hc u hu v hv).elim .inl fun h => (List.mem_cons.mp h).elim (fun e => .inl (e ▸ hy)) .inr

theorem Closed.visit {g : Graph} {vis st : List Nat} {y : Nat} (hc : Closed g vis (y :: st)) :
    Closed g (y :: vis) (succs g y ++ st) := fun u hu v hv => by
  rcases List.mem_cons.mp hu with rfl | hu
  · exact .inr (List.mem_append_left _ hv)  -- the successors of `y` itself are pushed
  · -- what an older node was waiting for is visited, is `y`, or still waits
    rcases hc u hu v hv with h | h
    · exact .inl (List.mem_cons_of_mem _ h)
    · exact (List.mem_cons.mp h).elim (fun e => .inl (e ▸ List.mem_cons_self)) fun h => .inr (List.mem_append_right _ h)

theorem dfs_complete_inv (g : Graph) (f : Nat) (st vis r : List Nat) (h : dfs g f st vis = some r)
    (hc : Closed g vis st) : (∀ x ∈ vis, x ∈ r) ∧ (∀ x ∈ st, x ∈ r) ∧ Closed g r [] := by
  fun_induction dfs g f st vis with
  | case1 | case3 => cases h; exact ⟨fun _ h => h, nofun, hc⟩  -- the stack is empty: `vis` is returned
  | case2 => cases h  -- out of fuel
  | case4 f y st vis hy ih =>  -- `y` visited before
    obtain ⟨h1, h2, h3⟩ := ih h (hc.skip hy)
    exact ⟨h1, List.forall_mem_cons.mpr ⟨h1 _ hy, h2⟩, h3⟩
  | case5 f y st vis hy ih =>  -- `y` is new
    obtain ⟨h1, h2, h3⟩ := ih h hc.visit
    have h1 := List.forall_mem_cons.mp h1
    exact ⟨h1.2, List.forall_mem_cons.mpr ⟨h1.1, fun x hx => h2 x (List.mem_append_right _ hx)⟩, h3⟩

theorem closed_reach (g : Graph) (r : List Nat) (hc : Closed g r []) (a x : Nat)
    (ha : a ∈ r) (h : Reach g a x) : x ∈ r := by
  induction h with
  | refl => exact ha
  | step _ hs ih => exact (hc _ ih _ hs).resolve_right List.not_mem_nil

theorem dfs_spec (g : Graph) (f a : Nat) (r : List Nat) (h : dfs g f [a] [] = some r) (x : Nat) :
    x ∈ r ↔ Reach g a x := by
  constructor
  · exact dfs_sound g a f [a] [] r h (List.forall_mem_singleton.mpr (Reach.refl _)) nofun x
  · obtain ⟨_, h2, h3⟩ := dfs_complete_inv g f [a] [] r h nofun
    exact closed_reach g r h3 a x (h2 a List.mem_cons_self)

/-! ### fuel -/

theorem succs_oob (g : Graph) (x : Nat) (h : ¬ x < g.length) : succs g x = [] := by
  simp [succs, List.getD, List.getElem?_eq_none (Nat.le_of_not_lt h)]

/-- Enough fuel: one unit for every stack entry there is to pop and, for every node of `todo`, one for each successor
    it will push (and the one more that `fuelFor` sets aside, which is never spent).  `todo` holds at least the
    unvisited nodes of the graph; a node leaves it when it is visited. -/
theorem dfs_fuel (g : Graph) (f : Nat) (st vis todo : List Nat) (hcov : ∀ u, u < g.length → u ∉ vis → u ∈ todo)
    (h : st.length + (todo.map fun u => 1 + (succs g u).length).sum ≤ f) : (dfs g f st vis).isSome := by
  fun_induction dfs g f st vis generalizing todo with
  | case1 | case3 => rfl  -- the stack is empty
  | case2 => simp at h  -- out of fuel with a non-empty stack
  | case4 f y st vis hy ih =>  -- `y` visited before: the stack shrinks
    exact ih todo hcov (by simp only [List.length_cons] at h; omega)
  | case5 f y st vis hy ih =>  -- `y` is new
    simp only [List.length_cons] at h
    by_cases hlt : y < g.length
    · -- `y` leaves `todo`: its share pays for the successors pushed
      have hs := ((List.perm_cons_erase (hcov y hlt hy)).map fun u => 1 + (succs g u).length).sum_nat
      rw [List.map_cons, List.sum_cons] at hs
      refine ih (todo.erase y) (fun u hu hv => ?_) (by rw [List.length_append]; omega)
      exact (List.mem_erase_of_ne fun e => hv (List.mem_cons.mpr (.inl e))).mpr
        (hcov u hu fun hm => hv (List.mem_cons_of_mem _ hm))
    · -- no such node in the graph: nothing is pushed
      refine ih todo (fun u hu hv => hcov u hu fun hm => hv (List.mem_cons_of_mem _ hm)) ?_
      rw [succs_oob g y hlt]; simp only [List.nil_append]; omega

/-! ### which parameters `visitParam` draws an edge from, for any longer-set (Props/C04 puts `allLonger g L` in) -/

theorem any_ltIn {longer : List Nat} {lts : List (Option Nat)} :
    lts.any (ltIn longer) = true ↔ ∃ l, some l ∈ lts ∧ l ∈ longer := by
  rw [List.any_eq_true]
  constructor
  · rintro ⟨lt, h, hl⟩
    cases lt with
    | none => cases hl
    | some l => exact ⟨l, h, of_decide_eq_true hl⟩
  · rintro ⟨l, h, hl⟩
    exact ⟨_, h, decide_eq_true hl⟩

theorem visitParam_nonstruct (longer : List Nat) (p : Param)
    (hk : p.kind.unwrapOption = .opaque ∨ p.kind.unwrapOption = .slice) :
    ∃ es, visitParam longer p = some es ∧
      ((∃ e ∈ es, e.param = p.name) ↔ ∃ l, some l ∈ p.lts ∧ l ∈ longer) := by
  rw [← any_ltIn]
  unfold visitParam
  rcases hk with hk | hk <;> rw [hk] <;> cases p.lts.any (ltIn longer)
  · exact ⟨[], rfl, (fun ⟨_, h, _⟩ => nomatch h), nofun⟩  -- an opaque, no lifetime in `longer`: no edge
  · exact ⟨[⟨p.name, .opaque⟩], rfl, fun _ => rfl, fun _ => ⟨_, List.mem_singleton.mpr rfl, rfl⟩⟩  -- an opaque: an edge
  · exact ⟨[], rfl, (fun ⟨_, h, _⟩ => nomatch h), nofun⟩  -- a slice, no lifetime in `longer`: no edge
  · exact ⟨[⟨p.name, .slice⟩], rfl, fun _ => rfl, fun _ => ⟨_, List.mem_singleton.mpr rfl, rfl⟩⟩  -- a slice: an edge

theorem visitParam_struct (longer : List Nat) (p : Param) (hk : p.kind.unwrapOption = .struct) (i : Nat) :
    ∃ es, visitParam longer p = some es ∧
      (⟨p.name, .structLt i⟩ ∈ es ↔ ∃ l, p.lts[i]? = some (some l) ∧ l ∈ longer) := by
  unfold visitParam
  rw [hk]
  refine ⟨_, rfl, ?_⟩
  simp only [List.mem_filterMap, List.mem_zipIdx_iff_getElem?, Prod.exists]
  constructor
  · rintro ⟨lt, j, hj, h⟩
    cases lt with
    | none => cases h
    | some l =>
      simp only [Option.ite_none_right_eq_some, Option.some.injEq, Edge.mk.injEq, EdgeKind.structLt.injEq,
        true_and] at h
      obtain ⟨hl, rfl⟩ := h
      exact ⟨l, hj, hl⟩
  · rintro ⟨l, hl, hr⟩
    exact ⟨some l, i, hl, if_pos hr⟩

end DiplomatModel.Lifetimes
