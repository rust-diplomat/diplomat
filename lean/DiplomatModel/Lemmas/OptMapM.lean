import DiplomatModel.Sexp
namespace DiplomatModel

theorem optMapM_cons {α β : Type} {f : α → Option β} {x : α} {xs : List α} {ys : List β} :
    optMapM f (x :: xs) = some ys ↔ ∃ y ys', f x = some y ∧ optMapM f xs = some ys' ∧ y :: ys' = ys := by
  rw [optMapM]
  cases f x <;> cases optMapM f xs <;> simp

theorem optMapM_length {α β : Type} {f : α → Option β} {ps : List α} {cs : List β}
    (h : optMapM f ps = some cs) : cs.length = ps.length := by
  induction ps generalizing cs with
  | nil => cases h; rfl
  | cons p ps ih =>
    obtain ⟨c, cs, -, hcs, rfl⟩ := optMapM_cons.mp h
    exact congrArg (· + 1) (ih hcs)

theorem optMapM_ne_nil {α β : Type} {f : α → Option β} {ps : List α} {cs : List β}
    (h : optMapM f ps = some cs) (hne : ps ≠ []) : cs ≠ [] := by
  rintro rfl
  exact hne (List.length_eq_zero_iff.mp (optMapM_length h).symm)

/-- for comparing two sides position by position: `f` makes one side's item out of an input (it may fail), `g` reads it,
    `h` reads the other side's straight from the input (C01: the C parameter, its meaning, the macro parameter's meaning) -/
theorem optMapM_map {α β γ : Type} (f : α → Option β) (g : β → γ) (h : α → γ) (ps : List α)
    (H : ∀ p ∈ ps, ∃ c, f p = some c ∧ g c = h p) :
    ∃ cs, optMapM f ps = some cs ∧ cs.map g = ps.map h := by
  induction ps with
  | nil => exact ⟨[], rfl, rfl⟩
  | cons p ps ih =>
    obtain ⟨c, hc, hg⟩ := H p List.mem_cons_self
    obtain ⟨cs, hcs, hm⟩ := ih fun q hq => H q (List.mem_cons_of_mem p hq)
    exact ⟨c :: cs, optMapM_cons.mpr ⟨c, cs, hc, hcs, rfl⟩, by rw [List.map_cons, List.map_cons, hg, hm]⟩

end DiplomatModel
