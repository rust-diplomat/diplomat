/-
  The byte codec of `Wire.lean` is local and inverts itself.  Of the layout the proofs use two facts only: the
  fields of a struct lie in order inside it (`struct_fits`, from the closed form of `fieldInfoOf`) and the flag of a
  result record lies behind both arms and inside the record (`flag_bounds`).
-/
import DiplomatModel.Wire
import DiplomatModel.Lemmas.Memory
import DiplomatModel.Lemmas.OptMapM
namespace DiplomatModel.Wire
open DiplomatModel.JsLayout DiplomatModel.Memory

theorem le_roundUp (n a : Nat) : n ≤ roundUp n a := Nat.le_add_right _ _

theorem align_result_eq (ok err : WTy) : align (.result ok err) = max (align ok) (align err) := rfl

theorem size_result_eq (ok err : WTy) :
    size (.result ok err) = roundUp (flagOffset ok err + 1) (max (align ok) (align err)) := rfl

theorem flag_bounds (ok err : WTy) :
    size ok ≤ flagOffset ok err ∧ size err ≤ flagOffset ok err ∧ flagOffset ok err < size (.result ok err) :=
  -- the flag sits at the larger arm's size rounded up; the record is that and the flag byte, rounded up again
  ⟨Nat.le_trans (Nat.le_max_left _ _) (le_roundUp _ _), Nat.le_trans (Nat.le_max_right _ _) (le_roundUp _ _),
    Nat.lt_of_lt_of_eq (le_roundUp (flagOffset ok err + 1) _) (size_result_eq ok err).symm⟩

theorem result_unit_arm {w : WTy} (hw : 0 < align w) :
    flagOffset w .unit = flagOffset w w ∧ size (.result w .unit) = size (.result w w) := by
  -- beside `w`, a unit arm (size 0, alignment 1) changes neither maximum
  have hs : max (size w) (size .unit) = max (size w) (size w) := (Nat.max_zero _).trans (Nat.max_self _).symm
  have ha : max (align w) (align .unit) = max (align w) (align w) := (Nat.max_eq_left hw).trans (Nat.max_self _).symm
  have hf : flagOffset w .unit = flagOffset w w := by rw [flagOffset, hs, ha, ← flagOffset]
  exact ⟨hf, by rw [size_result_eq, size_result_eq, hf, ha]⟩

/-- the fields sit at their offsets in order, without overlap, and end by `limit` -/
def Fits : Nat → List WTy → List Nat → Nat → Prop
  | next, [], [], limit => next ≤ limit
  | next, t :: ts, o :: os, limit => next ≤ o ∧ Fits (o + size t) ts os limit
  | _, _, _, _ => False

theorem fits_offsetsFrom (ts : List WTy) (next limit : Nat) (h : endFrom next (layouts ts) ≤ limit) :
    Fits next ts (offsetsFrom next (layouts ts)) limit := by
  induction ts generalizing next with
  | nil => exact h
  | cons t ts ih => exact ⟨Nat.le_add_right _ _, ih _ h⟩

theorem fits_end (ts : List WTy) (os : List Nat) (next limit : Nat) : Fits next ts os limit → next ≤ limit := by
  fun_induction Fits next ts os limit with
  | case1 => exact id
  | case2 next t ts o os limit ih => exact fun h => Nat.le_trans h.1 (Nat.le_trans (Nat.le_add_right _ _) (ih h.2))
  | case3 => exact False.elim

theorem fits_cons {t : WTy} {ts : List WTy} {next limit : Nat} {os : List Nat} (h : Fits next (t :: ts) os limit) :
    ∃ o os', os = o :: os' ∧ next ≤ o ∧ o + size t ≤ limit ∧ Fits (o + size t) ts os' limit := by
  cases os with
  | nil => exact h.elim
  | cons o os => exact ⟨o, os, rfl, h.1, fits_end ts os _ _ h.2, h.2⟩

theorem struct_fits (fs : List WTy) : Fits 0 fs (offsets fs) (size (.struct fs)) := by
  rw [offsets, fieldInfoOf_offsets]
  exact fits_offsetsFrom fs 0 _ (endFrom_le_size _)

theorem wellTyped_scalar {s : Nat} {v : WVal} (h : WellTyped (.scalar s) v) : ∃ bs, v = .scalar bs ∧ bs.length = s := by
  cases v with
  | scalar bs => exact ⟨bs, rfl, h⟩
  | _ => exact h.elim

theorem wellTyped_struct {fs : List WTy} {v : WVal} (h : WellTyped (.struct fs) v) :
    ∃ vs, v = .struct vs ∧ WellTypedList fs vs := by
  cases v with
  | struct vs => exact ⟨vs, rfl, h⟩
  | _ => exact h.elim

theorem wellTyped_result {ok err : WTy} {v : WVal} (h : WellTyped (.result ok err) v) :
    (∃ w, v = .ok w ∧ WellTyped ok w) ∨ (∃ w, v = .err w ∧ WellTyped err w) := by
  cases v with
  | ok w => exact .inl ⟨w, rfl, h⟩
  | err w => exact .inr ⟨w, rfl, h⟩
  | _ => exact h.elim

theorem wellTypedList_cons {t : WTy} {ts : List WTy} {vs : List WVal} (h : WellTypedList (t :: ts) vs) :
    ∃ v vs', vs = v :: vs' ∧ WellTyped t v ∧ WellTypedList ts vs' := by
  cases vs with
  | nil => exact h.elim
  | cons v vs => exact ⟨v, vs, rfl, h⟩

theorem decode_result_eq (ok err : WTy) (base : Nat) (m : Mem) :
    decode (.result ok err) base m
      = if m (base + flagOffset ok err) = 0 then .err (decode err base m) else .ok (decode ok base m) := rfl

theorem encode_ok_eq (ok err : WTy) (v : WVal) (base : Nat) (m : Mem) :
    encode (.result ok err) (.ok v) base m = writeAt (encode ok v base m) (base + flagOffset ok err) [1] := rfl

theorem encode_err_eq (ok err : WTy) (v : WVal) (base : Nat) (m : Mem) :
    encode (.result ok err) (.err v) base m = writeAt (encode err v base m) (base + flagOffset ok err) [0] := rfl

/-! ### locality and round trip, for every type, well formed or not -/

mutual
theorem encode_local (t : WTy) (v : WVal) (base : Nat) (m : Mem) (a : Nat) (hw : WellTyped t v)
    (ha : a < base ∨ base + size t ≤ a) : encode t v base m a = m a := by
  cases t with
  | unit => rfl
  | scalar s =>
    obtain ⟨bs, rfl, rfl⟩ := wellTyped_scalar hw
    exact writeAt_outside _ ha
  | struct fs =>
    obtain ⟨vs, rfl, hw⟩ := wellTyped_struct hw
    exact encodeFields_local fs vs (offsets fs) base m a 0 (size (.struct fs)) hw (struct_fits fs) ha
  | result ok err =>
    -- outside the record is outside both arms and not the flag byte
    obtain ⟨hflag, hok, herr⟩ : a ≠ base + flagOffset ok err ∧ (a < base ∨ base + size ok ≤ a)
        ∧ (a < base ∨ base + size err ≤ a) := by
      have := flag_bounds ok err
      omega
    rcases wellTyped_result hw with ⟨w, rfl, hw⟩ | ⟨w, rfl, hw⟩
    · rw [encode_ok_eq, writeAt_one, if_neg hflag]
      exact encode_local ok w base m a hw hok
    · rw [encode_err_eq, writeAt_one, if_neg hflag]
      exact encode_local err w base m a hw herr
theorem encodeFields_local (ts : List WTy) (vs : List WVal) (os : List Nat) (base : Nat) (m : Mem) (a next limit : Nat)
    (hw : WellTypedList ts vs) (hf : Fits next ts os limit) (ha : a < base + next ∨ base + limit ≤ a) :
    encodeFields ts vs os base m a = m a := by
  rcases ts with _ | ⟨t, ts⟩
  · rfl
  obtain ⟨o, os, rfl, hno, hlim, hf⟩ := fits_cons hf
  obtain ⟨v, vs, rfl, hv, hvs⟩ := wellTypedList_cons hw
  -- the later fields' stores leave `a` alone, then this field's does
  exact (encodeFields_local ts vs os base _ a (o + size t) limit hvs hf (by omega)).trans
    (encode_local t v (base + o) m a hv (by omega))
end

mutual
theorem decode_local (t : WTy) (base : Nat) (m m' : Mem) (h : ∀ a, base ≤ a → a < base + size t → m a = m' a) :
    decode t base m = decode t base m' := by
  cases t with
  | unit => rfl
  | scalar s => exact congrArg WVal.scalar (readAt_congr m m' base s h)
  | struct fs =>
    exact congrArg WVal.struct (decodeFields_local fs (offsets fs) base m m' 0 (size (.struct fs)) (struct_fits fs) h)
  | result ok err =>
    have hf := flag_bounds ok err
    -- the flag byte lies in the record and both arms lie below it
    have hflag := Nat.add_lt_add_left hf.2.2 base
    have below {n : Nat} (hn : n ≤ flagOffset ok err) : ∀ a, base ≤ a → a < base + n → m a = m' a :=
      fun a ha hb => h a ha (Nat.lt_trans (Nat.lt_of_lt_of_le hb (Nat.add_le_add_left hn _)) hflag)
    rw [decode_result_eq, decode_result_eq, h _ (Nat.le_add_right _ _) hflag,
      decode_local ok base m m' (below hf.1), decode_local err base m m' (below hf.2.1)]
theorem decodeFields_local (ts : List WTy) (os : List Nat) (base : Nat) (m m' : Mem) (next limit : Nat)
    (hf : Fits next ts os limit) (h : ∀ a, base + next ≤ a → a < base + limit → m a = m' a) :
    decodeFields ts os base m = decodeFields ts os base m' := by
  rcases ts with _ | ⟨t, ts⟩
  · rfl
  obtain ⟨o, os, rfl, hno, hlim, hf⟩ := fits_cons hf
  exact List.cons_eq_cons.mpr
    ⟨decode_local t (base + o) m m' (fun a ha hb => h a (by omega) (by omega)),
      decodeFields_local ts os base m m' (o + size t) limit hf (fun a ha hb => h a (by omega) hb)⟩
end

mutual
theorem roundtrip (t : WTy) (v : WVal) (base : Nat) (m : Mem) (hw : WellTyped t v) :
    decode t base (encode t v base m) = v := by
  cases t with
  | unit =>
    cases v with
    | unit => rfl
    | _ => exact hw.elim
  | scalar s =>
    obtain ⟨bs, rfl, rfl⟩ := wellTyped_scalar hw
    exact congrArg WVal.scalar (readAt_writeAt_same m base bs)
  | struct fs =>
    obtain ⟨vs, rfl, hw⟩ := wellTyped_struct hw
    exact congrArg WVal.struct (roundtripFields fs vs (offsets fs) base m 0 (size (.struct fs)) hw (struct_fits fs))
  | result ok err =>
    have hf := flag_bounds ok err
    -- the flag is stored behind the arm, so the arm is loaded as it was stored
    rcases wellTyped_result hw with ⟨w, rfl, hw⟩ | ⟨w, rfl, hw⟩
    · rw [encode_ok_eq, decode_result_eq, writeAt_one, if_pos rfl, if_neg Nat.one_ne_zero,
        decode_local ok base _ (encode ok w base m) fun a _ hb =>
          writeAt_outside a (.inl (Nat.lt_of_lt_of_le hb (Nat.add_le_add_left hf.1 _))),
        roundtrip ok w base m hw]
    · rw [encode_err_eq, decode_result_eq, writeAt_one, if_pos rfl, if_pos rfl,
        decode_local err base _ (encode err w base m) fun a _ hb =>
          writeAt_outside a (.inl (Nat.lt_of_lt_of_le hb (Nat.add_le_add_left hf.2.1 _))),
        roundtrip err w base m hw]
theorem roundtripFields (ts : List WTy) (vs : List WVal) (os : List Nat) (base : Nat) (m : Mem)
    (next limit : Nat) (hw : WellTypedList ts vs) (hf : Fits next ts os limit) :
    decodeFields ts os base (encodeFields ts vs os base m) = vs := by
  rcases ts with _ | ⟨t, ts⟩
  · cases vs with
    | nil => rfl
    | cons => exact hw.elim
  obtain ⟨o, os, rfl, -, -, hf⟩ := fits_cons hf
  obtain ⟨v, vs, rfl, hv, hvs⟩ := wellTypedList_cons hw
  -- the later fields are written above this one
  exact List.cons_eq_cons.mpr
    ⟨(decode_local t (base + o) _ (encode t v (base + o) m) fun a _ hb =>
        encodeFields_local ts vs os base _ a (o + size t) limit hvs hf (.inl (Nat.add_assoc .. ▸ hb))).trans
      (roundtrip t v (base + o) m hv),
    roundtripFields ts vs os base _ (o + size t) limit hvs hf⟩
end

/-! ### the same, as Props/C01 and Props/C10 cite it: for well-formed types (the hypothesis is not needed) -/

theorem encode_outside : ∀ (t : WTy) (v : WVal) (base : Nat) (m : Mem) (a : Nat), t.WF → WellTyped t v →
    (a < base ∨ base + size t ≤ a) → encode t v base m a = m a :=
  fun t v base m a _ => encode_local t v base m a

theorem encodeFields_outside : ∀ (ts : List WTy) (vs : List WVal) (os : List Nat) (base : Nat) (m : Mem) (a next limit : Nat),
    WFList ts → WellTypedList ts vs → Fits next ts os limit → (a < base + next ∨ base + limit ≤ a) →
    encodeFields ts vs os base m a = m a :=
  fun ts vs os base m a next limit _ => encodeFields_local ts vs os base m a next limit

theorem decode_congr : ∀ (t : WTy) (base : Nat) (m m' : Mem), t.WF →
    (∀ a, base ≤ a → a < base + size t → m a = m' a) → decode t base m = decode t base m' :=
  fun t base m m' _ => decode_local t base m m'

theorem decodeFields_congr : ∀ (ts : List WTy) (os : List Nat) (base : Nat) (m m' : Mem) (next limit : Nat),
    WFList ts → Fits next ts os limit → (∀ a, base + next ≤ a → a < base + limit → m a = m' a) →
    decodeFields ts os base m = decodeFields ts os base m' :=
  fun ts os base m m' next limit _ => decodeFields_local ts os base m m' next limit

theorem decode_encode : ∀ (t : WTy) (v : WVal) (base : Nat) (m : Mem), t.WF → WellTyped t v →
    decode t base (encode t v base m) = v :=
  fun t v base m _ => roundtrip t v base m

theorem decodeFields_encodeFields : ∀ (ts : List WTy) (vs : List WVal) (os : List Nat) (base : Nat) (m : Mem) (next limit : Nat),
    WFList ts → WellTypedList ts vs → Fits next ts os limit →
    decodeFields ts os base (encodeFields ts vs os base m) = vs :=
  fun ts vs os base m next limit _ => roundtripFields ts vs os base m next limit

theorem layouts_ne (fs : List WTy) (h : fs ≠ []) : layouts fs ≠ [] := by
  cases fs with
  | nil => exact absurd rfl h
  | cons t ts => exact List.cons_ne_nil _ _

mutual
theorem align_pos : ∀ (t : WTy), t.WF → 0 < align t
  | .unit, _ => Nat.one_pos
  | .scalar s, h => by
    have h : s = 1 ∨ s = 2 ∨ s = 4 ∨ s = 8 := h
    show 0 < s
    omega
  | .struct fs, h => fieldInfoOf_align_pos (layouts_ne fs h.1) (layouts_pos fs h.2)
  | .result ok err, h => by
    rw [align_result_eq]
    exact Nat.lt_of_lt_of_le (align_pos ok h.1) (Nat.le_max_left _ _)
theorem layouts_pos : ∀ (ts : List WTy), WFList ts → ∀ f ∈ layouts ts, 0 < f.2.1
  | [], _ => fun _ h => nomatch h
  | t :: ts, h => List.forall_mem_cons.mpr ⟨align_pos t h.1, layouts_pos ts h.2⟩
end

section
open DiplomatModel.Lower DiplomatModel.AbiGen

theorem optMapM_wf {α : Type} {f : α → Option WTy} {l : List α} {ws : List WTy}
    (h : optMapM f l = some ws) (hf : ∀ a w, f a = some w → w.WF) : WFList ws := by
  induction l generalizing ws with
  | nil => cases h; trivial
  | cons a l ih =>
    obtain ⟨w, ws, hw, hws, rfl⟩ := optMapM_cons.mp h
    exact ⟨hf a w hw, ih hws⟩

theorem primSize_wf (p : Prim) (s : Nat) (h : primSize p = some s) : (WTy.scalar s).WF := by
  show s = 1 ∨ s = 2 ∨ s = 4 ∨ s = 8
  cases p <;> cases h <;> decide

/-- **Every wire type of a bridge type is well formed** (so `decode_encode`, stated for well-formed types, applies to it;
    `align_pos` and `JsSlot.size_mod_align` are the facts that need it). -/
theorem wireOf_wf (env : Env) : ∀ (fuel : Nat) (t : TyName) (w : WTy), wireOf env fuel t = some w → w.WF := by
  intro fuel t
  fun_induction wireOf env fuel t <;> intro w h
  all_goals try contradiction  -- the branches without a wire type
  case case2 p =>  -- a primitive
    obtain ⟨s, hs, rfl⟩ := Option.map_eq_some_iff.mp h
    exact primSize_wf _ s hs
  case case5 hne ih =>  -- a struct with fields, each by `ih`
    obtain ⟨ws, hws, rfl⟩ := Option.map_eq_some_iff.mp h
    exact ⟨optMapM_ne_nil hws (mt List.isEmpty_iff.mpr hne), optMapM_wf hws ih⟩
  case case16 ih =>  -- an option of anything but a pointer to an opaque: a result with a unit arm
    obtain ⟨x, hx, rfl⟩ := Option.map_eq_some_iff.mp h
    exact ⟨ih x hx, trivial⟩
  -- the other branches name their wire type: a scalar of 1, 4 or 8 bytes, a struct of 8-byte scalars, `.unit`
  all_goals
    cases h
    simp [WTy.WF, WFList, viewW]
end

end DiplomatModel.Wire
