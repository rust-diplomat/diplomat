/-
  What `struct_field_info` (`fieldInfoOf`) computes, in closed form.  The loop patches the record of the previous
  field whenever a gap opens (`setLastPadding`); `fieldsFrom` gives every record at once.  Nothing after
  `fieldInfoOf_fields`, `_size` and `_align` looks inside the loop.
-/
import DiplomatModel.JsLayout
namespace DiplomatModel.JsLayout

theorem padTo_lt (n : Nat) {a : Nat} (ha : 0 < a) : padTo n a < a := Nat.mod_lt _ ha

theorem padTo_of_mod_zero {n a : Nat} (h : n % a = 0) : padTo n a = 0 := by
  rw [padTo, h, Nat.sub_zero, Nat.mod_self]

theorem padTo_zero (a : Nat) : padTo 0 a = 0 := padTo_of_mod_zero (Nat.zero_mod a)

theorem add_padTo_mod (n : Nat) {a : Nat} (ha : 0 < a) : (n + padTo n a) % a = 0 := by
  -- modulo `a`: `n + (a - n % a) % a ≡ n % a + (a - n % a) = a`
  rw [padTo, Nat.add_mod_mod, ← Nat.mod_add_mod, Nat.add_sub_cancel' (Nat.le_of_lt (Nat.mod_lt n ha)), Nat.mod_self]

theorem padTo_unique {n a p : Nat} (hp : p < a) (h : (n + p) % a = 0) : padTo n a = p := by
  have ha : 0 < a := Nat.zero_lt_of_lt hp
  -- modulo `a`, both are `n + p + padTo n a`: each of the two paddings completes `n` to a multiple of `a`
  calc padTo n a = (n + p + padTo n a) % a := by
        rw [← Nat.mod_add_mod, h, Nat.zero_add, Nat.mod_eq_of_lt (padTo_lt n ha)]
    _ = (n + padTo n a + p) % a := by rw [Nat.add_right_comm]
    _ = p := by rw [← Nat.mod_add_mod, add_padTo_mod n ha, Nat.zero_add, Nat.mod_eq_of_lt hp]

theorem dvd_padTo {d n a : Nat} (hn : d ∣ n) (ha : d ∣ a) : d ∣ padTo n a := by
  unfold padTo
  rw [Nat.dvd_mod_iff ha]
  exact Nat.dvd_sub ha ((Nat.dvd_mod_iff ha).mpr hn)

/-- the offsets the loop assigns, as a plain recursion -/
def offsetsFrom (next : Nat) : List (Nat × Nat × SC) → List Nat
  | [] => []
  | (sz, al, _) :: r => (next + padTo next al) :: offsetsFrom (next + padTo next al + sz) r

/-- where the next field would start after laying out `fs` from `next` -/
def endFrom (next : Nat) : List (Nat × Nat × SC) → Nat
  | [] => next
  | (sz, al, _) :: r => endFrom (next + padTo next al + sz) r

/-- the record of a field at `o`, given whether the loop patches it for the gap behind it and that gap: the gap
    becomes `gap / al` padding fields as wide as the field's own alignment -/
def fieldAt (o al : Nat) (sc : SC) (g : Bool × Nat) : FieldLayout :=
  if g.1 then ⟨o, g.2 / al, al, sc⟩ else ⟨o, 0, 1, sc⟩

/-- the gap the loop opens at `e`, where a field has ended, and whether it patches that field's record for it: before
    the fields `r` the gap is what the first of them asks for, behind the last field what the struct's alignment
    `A` asks for -/
def gapAt (A e : Nat) : List (Nat × Nat × SC) → Bool × Nat
  | [] => (e % A != 0, padTo e A)
  | (_, al, _) :: _ => (padTo e al != 0, padTo e al)

/-- the field records of a struct of alignment `A` -/
def fieldsFrom (A next : Nat) : List (Nat × Nat × SC) → List FieldLayout
  | [] => []
  | (sz, al, sc) :: r =>
    let o := next + padTo next al
    fieldAt o al sc (gapAt A (o + sz) r) :: fieldsFrom A (o + sz) r

theorem setLastPadding_nil (c w : Nat) : setLastPadding [] c w = [] := rfl

theorem setLastPadding_concat (fs : List FieldLayout) (l : FieldLayout) (c w : Nat) :
    setLastPadding (fs ++ [l]) c w = fs ++ [{ l with paddingCount := c, paddingWidth := w }] := by
  simp [setLastPadding]

/-- the patch `stepField` and `fieldInfoOf` apply to the records so far when the gap `g` opens behind the last of
    them, a field of alignment `al` -/
def patchLast (fs : List FieldLayout) (al : Nat) (g : Bool × Nat) : List FieldLayout :=
  if g.1 then setLastPadding fs (g.2 / al) al else fs

theorem patchLast_nil (al : Nat) (g : Bool × Nat) : patchLast [] al g = [] := by
  rw [patchLast, setLastPadding_nil, ite_self]

theorem patchLast_concat (pre : List FieldLayout) (o al : Nat) (sc : SC) (g : Bool × Nat) :
    patchLast (pre ++ [⟨o, 0, 1, sc⟩]) al g = pre ++ [fieldAt o al sc g] := by
  cases h : g.1 <;> simp [patchLast, fieldAt, setLastPadding_concat, h]

/-- The loop over `fs`, the last record patched for a struct alignment `A` as `fieldInfoOf` does: the records it
    started with, the last of them patched for the gap before `fs`, then the closed form. -/
theorem foldl_stepField_fields (A : Nat) (fs : List (Nat × Nat × SC)) (s : St) :
    (let t := fs.foldl stepField s; patchLast t.fields t.prevAlign (gapAt A t.next []))
      = patchLast s.fields s.prevAlign (gapAt A s.next fs) ++ fieldsFrom A s.next fs := by
  induction fs generalizing s with
  | nil => exact (List.append_nil _).symm
  | cons f r ih =>
    obtain ⟨sz, al, sc⟩ := f
    rw [List.foldl_cons, fieldsFrom]
    -- the step of `f` has appended `f`'s record; the loop over `r` patches it for the gap behind `f`
    exact (ih _).trans ((congrArg (· ++ _) (patchLast_concat _ _ _ _ _)).trans (List.append_assoc _ _ _))

theorem foldl_stepField_totals (fs : List (Nat × Nat × SC)) (s : St) :
    (fs.foldl stepField s).next = endFrom s.next fs
      ∧ (fs.foldl stepField s).maxAlign = (fs.map (·.2.1)).foldl max s.maxAlign := by
  induction fs generalizing s with
  | nil => exact ⟨rfl, rfl⟩
  | cons f r ih => exact ih (stepField s f)

section
variable {fs : List (Nat × Nat × SC)} (hne : fs ≠ [])
include hne

theorem fieldInfoOf_align : (fs.map (·.2.1)).max? = some (fieldInfoOf fs).align := by
  obtain ⟨f, r, rfl⟩ := List.exists_cons_of_ne_nil hne
  -- the loop starts from `0`, which the first alignment replaces
  rw [List.map_cons, List.max?_cons', ← Nat.zero_max f.2.1]
  exact congrArg some (foldl_stepField_totals (f :: r) ⟨0, 0, 1, [], .zst⟩).2.symm

/-- the guard `next % maxAlign != 0` of the trailing padding is redundant: the padding is `0` when it fails -/
theorem fieldInfoOf_size : (fieldInfoOf fs).size = endFrom 0 fs + padTo (endFrom 0 fs) (fieldInfoOf fs).align := by
  obtain ⟨f, r, rfl⟩ := List.exists_cons_of_ne_nil hne
  simp only [fieldInfoOf, List.isEmpty_cons, Bool.false_eq_true, if_false,
    (foldl_stepField_totals (f :: r) ⟨0, 0, 1, [], .zst⟩).1]
  split
  · rfl  -- the end is not a multiple of the alignment: trailing padding
  · rename_i h; rw [padTo_of_mod_zero (by simpa using h)]  -- it is: none

/-- the loop starts with no records, so the closed form is all there is -/
theorem fieldInfoOf_fields : (fieldInfoOf fs).fields = fieldsFrom (fieldInfoOf fs).align 0 fs := by
  obtain ⟨f, r, rfl⟩ := List.exists_cons_of_ne_nil hne
  refine (foldl_stepField_fields (fieldInfoOf (f :: r)).align (f :: r) ⟨0, 0, 1, [], .zst⟩).trans ?_
  rw [patchLast_nil, List.nil_append]

end

theorem endFrom_le_size (fs : List (Nat × Nat × SC)) : endFrom 0 fs ≤ (fieldInfoOf fs).size := by
  cases fs with
  | nil => exact Nat.zero_le _
  | cons f r => rw [fieldInfoOf_size (List.cons_ne_nil f r)]; exact Nat.le_add_right _ _

theorem fieldAt_offset (o al : Nat) (sc : SC) (g : Bool × Nat) : (fieldAt o al sc g).offset = o := by
  unfold fieldAt; split <;> rfl

theorem fieldsFrom_offsets (A next : Nat) (fs : List (Nat × Nat × SC)) :
    (fieldsFrom A next fs).map (·.offset) = offsetsFrom next fs := by
  induction fs generalizing next with
  | nil => rfl
  | cons f r ih => simp only [fieldsFrom, offsetsFrom, List.map_cons, ih, fieldAt_offset]

theorem fieldInfoOf_offsets (fs : List (Nat × Nat × SC)) :
    (fieldInfoOf fs).fields.map (·.offset) = offsetsFrom 0 fs := by
  cases fs with
  | nil => rfl
  | cons f r => rw [fieldInfoOf_fields (List.cons_ne_nil f r), fieldsFrom_offsets]

theorem offsetsFrom_length (next : Nat) (fs : List (Nat × Nat × SC)) : (offsetsFrom next fs).length = fs.length := by
  induction fs generalizing next with
  | nil => rfl
  | cons f r ih => simp [offsetsFrom, ih]

theorem fieldInfoOf_fields_length (fs : List (Nat × Nat × SC)) : (fieldInfoOf fs).fields.length = fs.length := by
  rw [← offsetsFrom_length 0 fs, ← fieldInfoOf_offsets, List.length_map]

/-- characterisation of a `#[repr(C)]` field placement: every offset is a multiple of the field's
    alignment, fields do not overlap and keep their order, and each gap is smaller than the alignment
    that caused it (i.e. each offset is the least admissible one).  The third argument, `next`, is where the field
    before ended: the first byte the fields listed may take. -/
def Good : List (Nat × Nat × SC) → List Nat → Nat → Prop
  | [], [], _ => True
  | (sz, al, _) :: fs, o :: os, next => o % al = 0 ∧ next ≤ o ∧ o - next < al ∧ Good fs os (o + sz)
  | _, _, _ => False

theorem offsetsFrom_good (fs : List (Nat × Nat × SC)) (hpos : ∀ f ∈ fs, 0 < f.2.1) :
    ∀ next, Good fs (offsetsFrom next fs) next := by
  induction fs with
  | nil => intro next; trivial
  | cons f r ih =>
    intro next
    obtain ⟨sz, al, sc⟩ := f
    have hal : 0 < al := hpos _ List.mem_cons_self
    exact ⟨add_padTo_mod next hal, Nat.le_add_right _ _, by rw [Nat.add_sub_cancel_left]; exact padTo_lt next hal,
      ih (fun f hf => hpos f (List.mem_cons_of_mem _ hf)) _⟩

section
variable {fs : List (Nat × Nat × SC)} (hne : fs ≠ [])
include hne

theorem fieldInfoOf_align_mem : ∃ f ∈ fs, (fieldInfoOf fs).align = f.2.1 := by
  obtain ⟨f, hf, h⟩ := List.mem_map.mp (List.max?_mem (fieldInfoOf_align hne))
  exact ⟨f, hf, h.symm⟩

variable (hpos : ∀ f ∈ fs, 0 < f.2.1)
include hpos

theorem fieldInfoOf_align_pos : 0 < (fieldInfoOf fs).align := by
  obtain ⟨f, hf, h⟩ := fieldInfoOf_align_mem hne
  rw [h]; exact hpos f hf

theorem fieldInfoOf_size_mod : (fieldInfoOf fs).size % (fieldInfoOf fs).align = 0 := by
  rw [fieldInfoOf_size hne]
  exact add_padTo_mod _ (fieldInfoOf_align_pos hne hpos)

end

end DiplomatModel.JsLayout
