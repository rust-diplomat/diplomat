import DiplomatModel.EnumGen
namespace DiplomatModel.EnumGen

theorem firstIdx_eq_findIdx? {α} (p : α → Bool) (l : List α) : firstIdx p l = l.findIdx? p := by
  induction l with
  | nil => rfl
  | cons x xs ih => simp only [firstIdx, List.findIdx?_cons, ih]

/-- distinct keys: the rows before row `i` have other keys than it -/
theorem key_not_before {α β} [DecidableEq β] {f : α → β} {l : List α} (nd : (l.map f).Nodup) {i : Nat}
    (hi : i < l.length) (j : Nat) (hj : j < i) : ¬ (f (l[j]'(Nat.lt_trans hj hi)) == f l[i]) = true := fun e =>
  List.pairwise_iff_getElem.mp (List.pairwise_map.mp nd) j i _ hi hj (beq_iff_eq.mp e)

theorem find?_nodup {α β} [DecidableEq β] (f : α → β) {l : List α} (nd : (l.map f).Nodup) {i : Nat} {x : α}
    (h : l[i]? = some x) : l.find? (fun r => f r == f x) = some x := by
  obtain ⟨hi, rfl⟩ := List.getElem?_eq_some_iff.mp h
  exact List.find?_eq_some_iff_getElem.mpr
    ⟨beq_self_eq_true _, i, hi, rfl, fun j hj => by simpa using key_not_before nd hi j hj⟩

theorem firstIdx_nodup {α β} [DecidableEq β] (f : α → β) {l : List α} (nd : (l.map f).Nodup) {i : Nat} {x : α}
    (h : l[i]? = some x) : firstIdx (fun r => f r == f x) l = some i := by
  obtain ⟨hi, rfl⟩ := List.getElem?_eq_some_iff.mp h
  rw [firstIdx_eq_findIdx?]
  exact List.findIdx?_eq_some_iff_getElem.mpr ⟨hi, beq_self_eq_true _, key_not_before nd hi⟩

theorem enumFrom_eq_zipIdx {α} (i : Nat) (l : List α) : enumFrom i l = (l.zipIdx i).map fun p => (p.2, p.1) := by
  induction l generalizing i with
  | nil => rfl
  | cons x xs ih => simp only [enumFrom, ih, List.zipIdx_cons, List.map_cons]

theorem enumFrom_length {α} (i : Nat) (l : List α) : (enumFrom i l).length = l.length := by
  rw [enumFrom_eq_zipIdx, List.length_map, List.length_zipIdx]

theorem enumFrom_getElem? {α} (i : Nat) (l : List α) (k : Nat) :
    (enumFrom i l)[k]? = l[k]?.map (fun x => (i + k, x)) := by
  rw [enumFrom_eq_zipIdx, List.getElem?_map, List.getElem?_zipIdx, Option.map_map]; rfl

theorem enumFrom_append {α} (i : Nat) (a b : List α) :
    enumFrom i (a ++ b) = enumFrom i a ++ enumFrom (i + a.length) b := by
  simp only [enumFrom_eq_zipIdx, List.zipIdx_append, List.map_append]

theorem discsFrom_length (l : Int) (vs : List (Option Int)) : (discsFrom l vs).length = vs.length := by
  induction vs generalizing l with
  | nil => rfl
  | cons v r ih => cases v <;> simp [discsFrom, ih]

theorem discsFrom_cons (last : Int) (v : Option Int) (r : List (Option Int)) :
    discsFrom last (v :: r) = v.getD (last + 1) :: discsFrom (v.getD (last + 1)) r := by
  cases v <;> rfl

/-- **rustc's rule in one equation**: variant `i` has its explicit discriminant, or one more than the variant before
    it, `last` standing before the first (the `getD 0` is never taken: `last :: discsFrom last vs` has a position `i`
    whenever `vs` has). -/
theorem discsFrom_getElem? (last : Int) (vs : List (Option Int)) (i : Nat) :
    (discsFrom last vs)[i]? = vs[i]?.map fun v => v.getD ((last :: discsFrom last vs)[i]?.getD 0 + 1) := by
  induction vs generalizing last i with
  | nil => rfl
  | cons v r ih =>
    rw [discsFrom_cons]
    cases i with
    | zero => rfl
    | succ j => exact ih _ j

theorem isContigFrom_iff (k : Nat) (ds : List Int) :
    isContigFrom k ds = true ↔ ∀ i (h : i < ds.length), ds[i] = ((k + i : Nat) : Int) := by
  induction ds generalizing k with
  | nil => exact ⟨nofun, fun _ => rfl⟩
  | cons d r ih =>
    rw [isContigFrom, Bool.and_eq_true, beq_iff_eq, ih]
    constructor
    · rintro ⟨rfl, hr⟩ (_ | j) hi
      · rfl
      · exact (hr j (Nat.lt_of_succ_lt_succ hi)).trans (by rw [Nat.add_right_comm, Nat.add_assoc])
    · exact fun h => ⟨h 0 (Nat.succ_pos _),
        fun j hj => (h (j + 1) (Nat.succ_lt_succ hj)).trans (by rw [Nat.add_right_comm, Nat.add_assoc])⟩

theorem names_length (e : EnumDef) : e.names.length = e.vars.length := by simp [EnumDef.names]
theorem discs_length (e : EnumDef) : e.discs.length = e.vars.length := by
  simp [EnumDef.discs, discs, discsFrom_length]
theorem rows_length (e : EnumDef) : e.rows.length = e.vars.length := by
  simp [EnumDef.rows, names_length, discs_length]

theorem hiD (e : EnumDef) (i : Nat) (hi : i < e.vars.length) : i < e.discs.length := by simp [discs_length, hi]
theorem hiN (e : EnumDef) (i : Nat) (hi : i < e.vars.length) : i < e.names.length := by simp [names_length, hi]
theorem hiR (e : EnumDef) (i : Nat) (hi : i < e.vars.length) : i < e.rows.length := by simp [rows_length, hi]

theorem rows_map_fst (e : EnumDef) : e.rows.map (·.1) = e.names := by
  unfold EnumDef.rows
  rw [List.map_fst_zip]; simp [names_length, discs_length]

theorem rows_map_snd (e : EnumDef) : e.rows.map (·.2) = e.discs := by
  unfold EnumDef.rows
  rw [List.map_snd_zip]; simp [names_length, discs_length]

theorem rows_getElem? (e : EnumDef) (i : Nat) (h : i < e.vars.length) :
    e.rows[i]? = some (e.names[i]'(hiN e i h), e.discs[i]'(hiD e i h)) :=
  List.getElem?_zip_eq_some.mpr ⟨List.getElem?_eq_getElem _, List.getElem?_eq_getElem _⟩

theorem rows_find?_disc {e : EnumDef} (nd : e.discs.Nodup) {i : Nat} {r : String × Int} (h : e.rows[i]? = some r) :
    e.rows.find? (fun s => s.2 == r.2) = some r :=
  find?_nodup (·.2) (by rwa [rows_map_snd]) h

theorem rows_firstIdx_disc {e : EnumDef} (nd : e.discs.Nodup) {i : Nat} {r : String × Int} (h : e.rows[i]? = some r) :
    firstIdx (fun s => s.2 == r.2) e.rows = some i :=
  firstIdx_nodup (·.2) (by rwa [rows_map_snd]) h

theorem rows_find?_name {e : EnumDef} (nd : e.names.Nodup) {i : Nat} {r : String × Int} (h : e.rows[i]? = some r) :
    e.rows.find? (fun s => s.1 == r.1) = some r :=
  find?_nodup (·.1) (by rwa [rows_map_fst]) h

theorem contig_getElem (e : EnumDef) (hc : isContig e.discs = true) (i : Nat) (h : i < e.vars.length) :
    e.discs[i]'(hiD e i h) = (i : Int) := by
  simpa using (isContigFrom_iff 0 e.discs).mp hc i (hiD e i h)

/-- in a contiguous list positions and discriminants are the same numbers -/
theorem enumFrom_contig (k : Nat) (ds : List Int) (hc : isContigFrom k ds = true) :
    (enumFrom k ds).map (fun p => ((p.1 : Int), p.2)) = ds.map fun d => (d, d) := by
  fun_induction isContigFrom k ds with
  | case1 => rfl
  | case2 k d r ih =>
    rw [Bool.and_eq_true, beq_iff_eq] at hc
    rw [enumFrom, List.map_cons, List.map_cons, ih hc.2, hc.1]

/-- JS keys `#objectValues` by position when the enum is contiguous and by discriminant otherwise: the same table -/
theorem jsEnum_objVals (e : EnumDef) : (jsEnum e).objVals = e.discs.map fun d => (d, d) := by
  unfold jsEnum
  simp only
  split
  next hc => exact enumFrom_contig 0 _ hc  -- contiguous
  next => rfl  -- not contiguous

theorem ktFold_nonContig (rows : List (Int × String)) (i : Nat) (vs : List (String × Int)) :
    ktFold (.nonContiguous rows) i vs = .nonContiguous (rows ++ vs.map (fun v => (wrapI32 v.2, v.1))) := by
  induction vs generalizing rows i with
  | nil => simp [ktFold]
  | cons v r ih => simp [ktFold, ktStep, ih]

theorem ktFold_contig (names : List String) (i : Nat) (vs : List (String × Int)) (hl : names.length = i) :
    ktFold (.contiguous names) i vs =
      if isContigFrom i (vs.map (·.2)) then .contiguous (names ++ vs.map (·.1))
      else .nonContiguous ((enumFrom 0 names).map (fun p => (wrapI32 (p.1 : Int), p.2))
            ++ vs.map (fun v => (wrapI32 v.2, v.1))) := by
  induction vs generalizing names i with
  | nil => simp [ktFold, isContigFrom]
  | cons v r ih =>
    rw [ktFold, ktStep, List.map_cons, isContigFrom]
    by_cases hv : (i : Int) = v.2
    · rw [if_pos hv, ih _ _ (by simp [hl]), ← hv, beq_self_eq_true, Bool.true_and]
      -- whichever way the rest goes, `v` comes right after the prefix, as a name or as row `i`
      simp [enumFrom_append, enumFrom, hl, hv]
    · rw [if_neg hv, ktFold_nonContig, beq_false_of_ne (Ne.symm hv), Bool.false_and]; simp

end DiplomatModel.EnumGen
