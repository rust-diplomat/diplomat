import DiplomatModel.Cfg
namespace DiplomatModel.Cfg

mutual
theorem sat_denote (vd : Validator) : ∀ (c : Cfg) (allow : Bool) (b af : Bool),
    sat vd c allow = some (b, af) → b = denote vd c := by
  intro c allow b af h
  cases c with
  | not c =>
    obtain ⟨r, hs, hr⟩ := Option.map_eq_some_iff.mp h
    cases hr
    simp [denote, ← sat_denote vd c false r.1 r.2 hs]
  -- `sat` of `any cs` / `all cs` is `satAny cs` / `satAll cs`, and likewise for `denote`, by definition
  | any cs => exact satAny_denote vd cs allow b af h
  | all cs => exact satAll_denote vd cs b af h
  | star => cases h; rfl
  | auto => cases allow <;> cases h; rfl
  | backend n => cases h; rfl
  | nameValue n v =>
    obtain ⟨x, hv, hr⟩ := Option.map_eq_some_iff.mp h
    cases hr
    simp [denote, hv]
theorem satAny_denote (vd : Validator) : ∀ (cs : List Cfg) (allow : Bool) (b af : Bool),
    satAny vd cs allow = some (b, af) → b = denoteAny vd cs := by
  intro cs allow b af h
  cases cs with
  | nil => cases h; rfl
  | cons c cs =>
    unfold satAny at h
    split at h
    · cases h  -- `c` is an error
    · next af' hs =>  -- `c` is satisfied: the loop returns
      cases h
      simp [denoteAny, ← sat_denote vd c allow true af hs]
    · next af' hs =>  -- `c` is not: on to the rest
      obtain ⟨r, hr, he⟩ := Option.map_eq_some_iff.mp h
      cases he
      simp [denoteAny, ← sat_denote vd c allow false af' hs, ← satAny_denote vd cs allow r.1 r.2 hr]
theorem satAll_denote (vd : Validator) : ∀ (cs : List Cfg) (b af : Bool),
    satAll vd cs = some (b, af) → b = denoteAll vd cs := by
  intro cs b af h
  cases cs with
  | nil => cases h; rfl
  | cons c cs =>
    unfold satAll at h
    split at h
    · cases h  -- `c` is an error
    · next af' hs =>  -- `c` is not satisfied: the loop returns
      cases h
      simp [denoteAll, ← sat_denote vd c false false af' hs]
    · next af' hs =>  -- `c` is: on to the rest
      simp [denoteAll, ← sat_denote vd c false true af' hs, ← satAll_denote vd cs b af h]
end

/-- `disable` is never taken back, errors or not -/
theorem fromAst_disable_mono (vd : Validator) (attrs : List Attr) (parent : HAttrs)
    (h : parent.disable = true) : (fromAst vd parent attrs).1.disable = true := by
  fun_induction fromAst vd parent attrs
  case case1 => exact h  -- no attribute left
  case case5 ih => exact ih rfl  -- `disable` on an enabled parent: on with `true`
  -- every other branch goes on with the parent's `disable`
  all_goals
    rename_i ih
    exact ih h

/-- the rename pattern the attributes themselves give: that of the last `rename` whose condition holds, `none` if there
    is no such attribute (the parent's comes in where this is used, by `.or parent.rename`) -/
def lastRename (vd : Validator) : List Attr → Option String
  | [] => none
  | a :: rest =>
    (lastRename vd rest).or (match a.kind with
      | .rename p => if denote vd a.cfg then some p else none
      | _ => none)

/-- **What `from_ast` computes** when it reports no error, in the plain Boolean reading of the conditions. -/
theorem fromAst_ok (vd : Validator) (attrs : List Attr) (parent : HAttrs) (hok : (fromAst vd parent attrs).2 = 0) :
    (fromAst vd parent attrs).1 =
      { disable := parent.disable || attrs.any fun a => decide (a.kind = .disable) && denote vd a.cfg
        rename := (lastRename vd attrs).or parent.rename } := by
  fun_induction fromAst vd parent attrs
  case case1 => simp [lastRename]  -- no attribute left
  -- the branches that count an error
  case case2 | case7 => exact absurd hok (Nat.succ_ne_zero _)
  case case4 => exact absurd (Nat.add_eq_zero_iff.mp hok).1 (Nat.succ_ne_zero _)
  case case3 parent a rest af hs ih =>  -- the condition is false: the attribute is skipped
    have hd := sat_denote vd a.cfg true false af hs
    rw [ih hok]
    cases hk : a.kind <;> simp [lastRename, hk, ← hd]
  case case5 parent a rest af hs hk hp r ih =>  -- `disable` on an enabled parent
    have hd := sat_denote vd a.cfg true true af hs
    rw [ih (Nat.add_eq_zero_iff.mp hok).1]
    simp [lastRename, hk, ← hd, hp]
  case case6 parent a rest af hs p hk r ih =>  -- `rename`
    have hd := sat_denote vd a.cfg true true af hs
    rw [ih (Nat.add_eq_zero_iff.mp hok).1]
    simp [lastRename, hk, ← hd]

/-- both branches of `lowerType` copy the flag `from_ast` computes for the type -/
theorem lowerType_disabled (vd : Validator) (tp mp : HAttrs) (t : TypeDef) :
    (lowerType vd tp mp t).1.disabled = (fromAst vd tp t.attrs).1.disable := by
  unfold lowerType
  cases h : (fromAst vd tp t.attrs).1.disable <;> simp [h]

/-- an item below the bridge module: whichever way the module's attributes are inherited (`ctx`), `disable` comes
    down, so the item is disabled iff a true-conditioned `disable` is in the module's list or in its own -/
theorem disabled_below_module (vd : Validator) (ma as : List Attr) (ctx : Ctx)
    (hm : (fromAst vd {} ma).2 = 0) (ha : (fromAst vd ((fromAst vd {} ma).1.forInheritance ctx) as).2 = 0) :
    (fromAst vd ((fromAst vd {} ma).1.forInheritance ctx) as).1.disable = true ↔
      ∃ a ∈ ma ++ as, a.kind = .disable ∧ denote vd a.cfg = true := by
  rw [fromAst_ok vd as _ ha, show ((fromAst vd {} ma).1.forInheritance ctx).disable = (fromAst vd {} ma).1.disable by
    cases ctx <;> rfl, fromAst_ok vd ma {} hm]
  simp [← List.any_append]

end DiplomatModel.Cfg
