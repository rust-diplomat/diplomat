import DiplomatModel.Lemmas.JsLayout
import DiplomatModel.Lemmas.OptMapM
/-!
  C08 — the typed padding attached to fields (`padding_count` × `padding_field_width`) accounts for every gap
  of the layout: field sizes plus padding fields add up to the struct's size (`tile_one_level`).  This is what makes
  the "padded direct" argument list of `_intoFFI` cover the whole struct.
  For nested structs: for well-formed field types (`LTy.WF`) whose padding is emitted at every level (`padOK`), the
  slots of a field are as wide as the field (`tySlots_tile`).
-/
namespace DiplomatModel.JsLayout

def Pow2 (a : Nat) : Prop := ∃ k, a = 2 ^ k

theorem Pow2.pos {a : Nat} (h : Pow2 a) : 0 < a := by
  obtain ⟨k, rfl⟩ := h; exact Nat.pow_pos (by decide)

theorem Pow2.one : Pow2 1 := ⟨0, rfl⟩

theorem Pow2.dvd_of_le {a b : Nat} (ha : Pow2 a) (hb : Pow2 b) (h : a ≤ b) : a ∣ b := by
  obtain ⟨j, rfl⟩ := ha; obtain ⟨k, rfl⟩ := hb
  exact Nat.pow_dvd_pow 2 ((Nat.pow_le_pow_iff_right (by decide)).mp h)

theorem Pow2.total {a b : Nat} (ha : Pow2 a) (hb : Pow2 b) : a ∣ b ∨ b ∣ a := by
  rcases Nat.le_total a b with h | h
  · exact Or.inl (ha.dvd_of_le hb h)
  · exact Or.inr (hb.dvd_of_le ha h)

theorem Pow2.max {a b : Nat} (ha : Pow2 a) (hb : Pow2 b) : Pow2 (max a b) := by
  rcases Nat.le_total a b with h | h
  · rw [Nat.max_eq_right h]; exact hb
  · rw [Nat.max_eq_left h]; exact ha

/-- a multiple of one power of two is still one after padding to another: the count `gap / prev_align` of
    padding fields never truncates (the `assert!(padding % prev_align == 0)` of `struct_field_info` cannot fire) -/
theorem Pow2.dvd_padTo {a b n : Nat} (ha : Pow2 a) (hb : Pow2 b) (hn : a ∣ n) : a ∣ padTo n b := by
  rcases ha.total hb with hd | hd
  · exact JsLayout.dvd_padTo hn hd
  · rw [padTo_of_mod_zero (Nat.mod_eq_zero_of_dvd (Nat.dvd_trans hd hn))]
    exact Nat.dvd_zero _

/-- total width of the padding fields attached to a list of field layouts -/
def padSum (fs : List FieldLayout) : Nat := (fs.map fun f => f.paddingCount * f.paddingWidth).sum

def sizeSum (ls : List (Nat × Nat × SC)) : Nat := (ls.map (·.1)).sum

@[simp] theorem padSum_nil : padSum [] = 0 := rfl

theorem padSum_cons (f : FieldLayout) (fs : List FieldLayout) :
    padSum (f :: fs) = f.paddingCount * f.paddingWidth + padSum fs := by simp [padSum]

theorem sizeSum_nil : sizeSum [] = 0 := rfl

theorem sizeSum_cons (l : Nat × Nat × SC) (ls : List (Nat × Nat × SC)) : sizeSum (l :: ls) = l.1 + sizeSum ls := by
  simp [sizeSum]

theorem fieldAt_padding {o al : Nat} {sc : SC} {g : Bool × Nat} (hd : al ∣ g.2) (h0 : g.1 = false → g.2 = 0) :
    (fieldAt o al sc g).paddingCount * (fieldAt o al sc g).paddingWidth = g.2 := by
  unfold fieldAt
  split
  · exact Nat.div_mul_cancel hd
  · rename_i h; rw [h0 (by simpa using h)]; rfl

theorem dvd_field_end {sz al : Nat} (next : Nat) (hal : Pow2 al) (hsz : al ∣ sz) : al ∣ next + padTo next al + sz :=
  Nat.dvd_add (Nat.dvd_of_mod_eq_zero (add_padTo_mod next hal.pos)) hsz

/-- the gap behind a field is a multiple of the field's alignment, because the field's end is: the count
    `gap / al` of padding fields never truncates -/
theorem gapAt_padding {A e o al : Nat} {sc : SC} {r : List (Nat × Nat × SC)} (hal : Pow2 al) (he : al ∣ e)
    (hA : Pow2 A) (hr : ∀ g ∈ r, Pow2 g.2.1) :
    (fieldAt o al sc (gapAt A e r)).paddingCount * (fieldAt o al sc (gapAt A e r)).paddingWidth = (gapAt A e r).2 := by
  rcases r with _ | ⟨⟨_, al', _⟩, r⟩
  · exact fieldAt_padding (hal.dvd_padTo hA he) fun h => padTo_of_mod_zero (by simpa [gapAt] using h)
  · exact fieldAt_padding (hal.dvd_padTo (hr _ List.mem_cons_self) he) (by simp [gapAt])

/-- From `next` to the rounded end of the struct, the gap before the fields, their sizes and their padding fields
    leave no hole. -/
theorem fieldsFrom_tile (A next : Nat) (fs : List (Nat × Nat × SC)) (hwf : ∀ g ∈ fs, Pow2 g.2.1 ∧ g.2.1 ∣ g.1)
    (hA : Pow2 A) :
    next + (gapAt A next fs).2 + sizeSum fs + padSum (fieldsFrom A next fs)
      = endFrom next fs + padTo (endFrom next fs) A := by
  induction fs generalizing next with
  | nil => rfl
  | cons f r ih =>
    obtain ⟨sz, al, sc⟩ := f
    have ⟨hal, hsz⟩ : Pow2 al ∧ al ∣ sz := hwf _ List.mem_cons_self
    have hwf' := fun g hg => hwf g (List.mem_cons_of_mem _ hg)
    rw [fieldsFrom, padSum_cons, sizeSum_cons, endFrom, ← ih _ hwf',
      gapAt_padding hal (dvd_field_end next hal hsz) hA fun g hg => (hwf' g hg).1]
    dsimp only [gapAt]
    omega

theorem struct_layout_wf (ls : List (Nat × Nat × SC)) (hne : ls ≠ []) (hwf : ∀ f ∈ ls, Pow2 f.2.1 ∧ f.2.1 ∣ f.1) :
    Pow2 (fieldInfoOf ls).align ∧ (fieldInfoOf ls).align ∣ (fieldInfoOf ls).size := by
  have hpos : ∀ f ∈ ls, 0 < f.2.1 := fun f hf => (hwf f hf).1.pos
  obtain ⟨f, hf, h⟩ := fieldInfoOf_align_mem hne
  exact ⟨h ▸ (hwf f hf).1, Nat.dvd_of_mod_eq_zero (fieldInfoOf_size_mod hne hpos)⟩

theorem tile_one_level (ls : List (Nat × Nat × SC)) (hne : ls ≠ [])
    (hwf : ∀ f ∈ ls, Pow2 f.2.1 ∧ f.2.1 ∣ f.1) :
    sizeSum ls + padSum (fieldInfoOf ls).fields = (fieldInfoOf ls).size := by
  have h := fieldsFrom_tile _ 0 ls hwf (struct_layout_wf ls hne hwf).1
  rw [← fieldInfoOf_fields hne, ← fieldInfoOf_size hne] at h
  -- no gap opens at `0`
  obtain ⟨f, r, rfl⟩ := List.exists_cons_of_ne_nil hne
  rwa [gapAt, padTo_zero, Nat.add_zero, Nat.zero_add] at h

def slotsWidth (sl : List Slot) : Nat := (sl.map Slot.width).sum

@[simp] theorem slotsWidth_nil : slotsWidth [] = 0 := rfl

theorem slotsWidth_append (a b : List Slot) : slotsWidth (a ++ b) = slotsWidth a + slotsWidth b := by
  simp [slotsWidth, List.map_append, List.sum_append]

theorem slotsWidth_replicate (n : Nat) (x : Slot) : slotsWidth (List.replicate n x) = n * x.width := by
  simp [slotsWidth, List.map_replicate, List.sum_replicate_nat]

mutual
/-- well-formed field types: power-of-two alignments, sizes that are multiples of them, no empty structs -/
def LTy.WF : LTy → Prop
  | .scalar s a => Pow2 a ∧ a ∣ s
  | .slice => True
  | .struct fs => fs ≠ [] ∧ WFList fs
  | .opt t => t.WF
def WFList : List LTy → Prop
  | [] => True
  | t :: ts => t.WF ∧ WFList ts
end

theorem layoutOf_struct {fs : List LTy} {sz al : Nat} {sc : SC} :
    layoutOf (.struct fs) = some (sz, al, sc) ↔
      ∃ ls, layoutList fs = some ls ∧ (fieldInfoOf ls).size = sz ∧ (fieldInfoOf ls).align = al ∧ (fieldInfoOf ls).sc = sc := by
  simp only [layoutOf, Option.map_eq_some_iff, Prod.mk.injEq]

theorem layoutOf_opt {t : LTy} {sz al : Nat} {sc : SC} :
    layoutOf (.opt t) = some (sz, al, sc) ↔
      ∃ sz' sc', layoutOf t = some (sz', al, sc') ∧ sc' ≠ .zst ∧ sz = sz' + al ∧ sc = .memory := by
  rw [layoutOf]
  constructor
  · intro h
    split at h
    · rename_i sz' al' sc' ht  -- the payload has a layout
      split at h
      · cases h  -- of a zero-sized type: the `unimplemented!`
      · rename_i hz  -- of anything else: the flag follows, padded to the alignment
        cases h
        exact ⟨sz', sc', ht, hz, rfl, rfl⟩
    · cases h  -- the payload has none
  · rintro ⟨sz', sc', ht, hz, rfl, rfl⟩
    rw [ht]
    exact if_neg hz

/-- `layoutList` is `optMapM layoutOf`, written out so that it can be defined together with `layoutOf` -/
theorem layoutList_eq_optMapM (fs : List LTy) : layoutList fs = optMapM layoutOf fs := by
  induction fs with
  | nil => rfl
  | cons t ts ih => rw [layoutList, optMapM, ih]; cases layoutOf t <;> cases optMapM layoutOf ts <;> rfl

theorem layoutList_cons {t : LTy} {ts : List LTy} {ls : List (Nat × Nat × SC)} :
    layoutList (t :: ts) = some ls ↔ ∃ l ls', layoutOf t = some l ∧ layoutList ts = some ls' ∧ l :: ls' = ls := by
  rw [layoutList_eq_optMapM, layoutList_eq_optMapM]
  exact optMapM_cons

theorem layoutList_length (fs : List LTy) (ls) (h : layoutList fs = some ls) : ls.length = fs.length :=
  optMapM_length (layoutList_eq_optMapM fs ▸ h)

theorem structFieldInfo_eq {fs : List LTy} {ls} (h : layoutList fs = some ls) :
    structFieldInfo fs = some (fieldInfoOf ls) := by
  rw [structFieldInfo, h]; rfl

theorem layoutList_ne {fs : List LTy} {ls} (h : layoutList fs = some ls) (hne : fs ≠ []) : ls ≠ [] :=
  optMapM_ne_nil (layoutList_eq_optMapM fs ▸ h) hne

mutual
theorem layout_wf {t : LTy} {sz al : Nat} {sc : SC} (hwf : t.WF) (h : layoutOf t = some (sz, al, sc)) :
    Pow2 al ∧ al ∣ sz := by
  cases t with
  | scalar s a => cases h; exact hwf
  | slice => cases h; exact ⟨⟨2, rfl⟩, ⟨2, rfl⟩⟩  -- alignment 4 = 2 ^ 2, size 8 = 4 * 2
  | struct fs =>
    obtain ⟨ls, hls, rfl, rfl, rfl⟩ := layoutOf_struct.mp h
    exact struct_layout_wf ls (layoutList_ne hls hwf.1) (layoutList_wf hwf.2 hls)
  | opt t =>
    obtain ⟨sz', sc', ht, _, rfl, rfl⟩ := layoutOf_opt.mp h
    obtain ⟨h1, h2⟩ := layout_wf (t := t) hwf ht
    exact ⟨h1, Nat.dvd_add h2 (Nat.dvd_refl _)⟩
theorem layoutList_wf {fs : List LTy} {ls : List (Nat × Nat × SC)} (hwf : WFList fs) (h : layoutList fs = some ls) :
    ∀ f ∈ ls, Pow2 f.2.1 ∧ f.2.1 ∣ f.1 := by
  rcases fs with _ | ⟨t, ts⟩
  · cases h; exact fun _ hf => nomatch hf
  obtain ⟨⟨sz, al, sc⟩, ls', h1, h2, rfl⟩ := layoutList_cons.mp h
  exact List.forall_mem_cons.mpr ⟨layout_wf hwf.1 h1, layoutList_wf hwf.2 h2⟩
end

mutual
/-- padding is actually emitted at every struct level below (and including) this field: a struct's own padding
    fields are conditional exactly when it has two scalars, and then its caller must have asked for them -/
def padOK : LTy → SC → SC → Bool → Bool
  | .struct gs, fsc, whole, force =>
    match structFieldInfo gs, layoutList gs with
    | some info, some ls =>
      (decide (info.sc ≠ .scalars 2) || childForce (forcePadding fsc whole true) force)
        && padOKList gs ls info.sc (childForce (forcePadding fsc whole true) force)
    | _, _ => true
  | .scalar _ _, _, _, _ => true
  | .slice, _, _, _ => true
  | .opt _, _, _, _ => true
def padOKList : List LTy → List (Nat × Nat × SC) → SC → Bool → Bool
  | t :: ts, l :: ls, whole, force => padOK t l.2.2 whole force && padOKList ts ls whole force
  | _, _, _, _ => true
end

theorem atLeast3_iff {w : SC} : atLeast3 w = true ↔ ∃ n, w = .scalars n ∧ 3 ≤ n := by
  cases w <;> simp [atLeast3]

theorem padSlots_width (fl : FieldLayout) (whole : SC) (force : Bool) (hp : whole ≠ .scalars 2 ∨ force = true) :
    slotsWidth (padSlots fl whole force) = fl.paddingCount * fl.paddingWidth := by
  unfold padSlots
  by_cases h0 : fl.paddingCount = 0
  · simp [h0]
  · rcases hp with hp | hp <;> simp [h0, hp, slotsWidth_replicate, Slot.width]

mutual
theorem tySlots_tile : ∀ (t : LTy) (fsc whole : SC) (force : Bool) (sz al : Nat) (sc : SC) (sl : List Slot),
    t.WF → padOK t fsc whole force = true → layoutOf t = some (sz, al, sc) → tySlots t fsc whole force = some sl →
    slotsWidth sl = sz := by
  intro t fsc whole force sz al sc sl hwf hok hl hs
  cases t with
  | scalar s a => cases hl; cases hs; rfl
  | slice => cases hl; cases hs; rfl
  | struct gs =>
    obtain ⟨ls, hls, rfl, rfl, rfl⟩ := layoutOf_struct.mp hl
    have hsi := structFieldInfo_eq hls
    simp only [tySlots, hsi, hls] at hs
    simp only [padOK, hsi, hls, Bool.and_eq_true, Bool.or_eq_true, decide_eq_true_eq] at hok
    rw [fieldsSlots_tile hwf.2 hok.2 hok.1 hls (fieldInfoOf_fields_length ls) hs]
    exact tile_one_level ls (layoutList_ne hls hwf.1) (layoutList_wf hwf.2 hls)
  | opt t =>
    obtain ⟨sz', sc', ht, _, rfl, rfl⟩ := layoutOf_opt.mp hl
    simp only [tySlots, ht, Option.some.injEq] at hs
    subst hs
    obtain ⟨h1, h2⟩ := layout_wf (t := t) hwf ht
    -- the payload in chunks, the flag byte, `al - 1` padding bytes
    simp only [slotsWidth_append, slotsWidth_replicate, Slot.width, Nat.div_mul_cancel h2, Nat.mul_one]
    show sz' + 1 + (al - 1) = sz' + al
    rw [Nat.add_assoc, Nat.add_sub_cancel' h1.pos]
theorem fieldsSlots_tile {ts : List LTy} {fls : List FieldLayout} {ls : List (Nat × Nat × SC)} {whole : SC}
    {force : Bool} {sl : List Slot} (hwf : WFList ts) (hok : padOKList ts ls whole force = true)
    (hp : whole ≠ .scalars 2 ∨ force = true) (hl : layoutList ts = some ls) (hlen : fls.length = ls.length)
    (hs : fieldsSlots ts fls ls whole force = some sl) :
    slotsWidth sl = sizeSum ls + padSum fls := by
  rcases ts with _ | ⟨t, ts⟩
  · cases hl; cases hs
    cases List.length_eq_zero_iff.mp hlen
    rfl
  obtain ⟨⟨sz, al, sc⟩, ls', h1, h2, rfl⟩ := layoutList_cons.mp hl
  rcases fls with _ | ⟨fl, fls⟩
  · cases hlen
  simp only [fieldsSlots] at hs
  split at hs
  · rename_i own rest ho hr  -- the field and the fields after it have slots
    cases hs
    simp only [padOKList, Bool.and_eq_true] at hok
    rw [slotsWidth_append, slotsWidth_append, padSlots_width fl whole force hp, sizeSum_cons, padSum_cons,
      tySlots_tile t sc whole force sz al sc own hwf.1 hok.1 h1 ho,
      fieldsSlots_tile hwf.2 hok.2 hp h2 (Nat.succ.inj hlen) hr]
    omega
  · simp at hs  -- one of them has none
end

end DiplomatModel.JsLayout
