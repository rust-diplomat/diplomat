import DiplomatModel.JsStr
namespace DiplomatModel.JsStr
open DiplomatModel.Utf8

theorem enc_length (c : Nat) : (enc c).length = cpLen c := by
  unfold enc cpLen
  simp only [apply_ite List.length, List.length_cons, List.length_nil]

/-- the ladder of `cpLen`, once: every bound below is linear arithmetic over it -/
theorem cpLen_spec (c : Nat) :
    (c < 0x80 ∧ cpLen c = 1) ∨ (0x80 ≤ c ∧ c < 0x800 ∧ cpLen c = 2)
      ∨ (0x800 ≤ c ∧ c < 0x10000 ∧ cpLen c = 3) ∨ (0x10000 ≤ c ∧ cpLen c = 4) := by
  unfold cpLen; grind

theorem cpLen_pos (c : Nat) : 1 ≤ cpLen c := by have := cpLen_spec c; omega
theorem cpLen_le4 (c : Nat) : cpLen c ≤ 4 := by have := cpLen_spec c; omega
theorem cpLen_le3 (c : Nat) (h : c < 0x10000) : cpLen c ≤ 3 := by have := cpLen_spec c; omega

/-- replacing a lone surrogate by U+FFFD does not change the number of bytes: both take three -/
theorem cpLen_scalarOf (c : Nat) : cpLen (scalarOf c) = cpLen c := by
  unfold scalarOf
  split
  next h =>  -- a surrogate
    simp only [Bool.and_eq_true, decide_eq_true_eq] at h
    have := cpLen_spec c; have := cpLen_spec 0xFFFD; omega
  next => rfl  -- anything else is kept

theorem pairValue_range (u v : Nat) (hu : isLead u = true) (hv : isTrail v = true) :
    0x10000 ≤ pairValue u v ∧ pairValue u v < 0x110000 := by
  simp only [isLead, isTrail, Bool.and_eq_true, decide_eq_true_eq] at hu hv
  unfold pairValue
  omega

theorem codePoints_lt (us : List Nat) (h : ∀ u ∈ us, u < 0x10000) : ∀ c ∈ codePoints us, c < 0x110000 := by
  fun_induction codePoints us with
  | case1 => nofun  -- the empty string
  | case2 u => simpa using Nat.lt_trans (h u (by simp)) (by decide)  -- a single unit
  | case3 u v rest hp ih =>  -- a lead followed by a trail: one code point
    simp only [Bool.and_eq_true] at hp
    have hr := ih fun x hx => h x (by simp [hx])
    simpa using ⟨(pairValue_range u v hp.1 hp.2).2, hr⟩
  | case4 u v rest _ ih =>  -- anything else: `u` stands for itself
    have hr := ih fun x hx => h x (List.mem_cons_of_mem _ hx)
    simpa using ⟨Nat.lt_trans (h u (by simp)) (by decide), hr⟩

theorem scalarOf_isScalar (c : Nat) (h : c < 0x110000) : isScalar (scalarOf c) := by
  unfold scalarOf isScalar
  split
  next => decide  -- a surrogate: U+FFFD
  next hs => simp only [Bool.and_eq_true, decide_eq_true_eq] at hs; omega  -- anything else is kept

theorem decode16_unitBytes (u : Nat) (h : u < 0x10000) (rest : List Nat) :
    decode16 (unitBytes u ++ rest) = u :: decode16 rest := by
  show (u % 256 + 256 * (u / 256 % 256)) :: decode16 rest = _
  -- the high byte is below 256 as it is: low and high byte are remainder and quotient of `u` by 256
  rw [Nat.mod_eq_of_lt (Nat.div_lt_of_lt_mul (show u < 256 * 256 from h)), Nat.mod_add_div]

end DiplomatModel.JsStr
