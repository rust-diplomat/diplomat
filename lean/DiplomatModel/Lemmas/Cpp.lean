import DiplomatModel.Lemmas.OptMapM
import DiplomatModel.CppMethod
import DiplomatModel.KtNative
namespace DiplomatModel

theorem filter_partition_length {α : Type} (p q : α → Bool) (l : List α) (h : ∀ x, q x = !p x) :
    (l.filter p).length + (l.filter q).length = l.length := by
  have hq : q = fun x => decide ¬p x = true := funext fun x => by rw [h x]; cases p x <;> rfl
  rw [hq, ← List.countP_eq_length_filter, ← List.countP_eq_length_filter, ← List.length_eq_countP_add_countP]

open DiplomatModel.Lower DiplomatModel.AbiGen DiplomatModel.CppMethod

/-- with at most one write parameter, the declared parameters plus the write buffer are the method's parameters -/
theorem params_split (m : AMethod)
    (hw : (m.params.filter fun p => match p.2 with | .write => true | _ => false).length ≤ 1) :
    (cppParams m).length + (if hasWriteParam m then 1 else 0) = m.params.length := by
  have hsplit : (cppParams m).length + (m.params.filter fun p => match p.2 with | .write => true | _ => false).length
      = m.params.length :=
    filter_partition_length _ _ _ fun p => by cases p.2 <;> rfl
  have hwrite : hasWriteParam m = true
      ↔ 0 < (m.params.filter fun p => match p.2 with | .write => true | _ => false).length :=
    List.any_eq_true.trans List.length_filter_pos_iff.symm
  split
  next h => exact Nat.le_antisymm hw (hwrite.mp h) ▸ hsplit  -- exactly one
  next h => exact Nat.eq_zero_of_not_pos (mt hwrite.mpr h) ▸ hsplit  -- none

theorem cParams_length {env : Env} {pfx owner : String} {m : AMethod} {ps : List (String × CTy)}
    (h : cParams env pfx owner m = some ps) : ps.length = (if m.self.isSome then 1 else 0) + m.params.length := by
  unfold cParams at h
  split at h <;> simp only [Option.some.injEq, reduceCtorEq] at h
  rename_i a b ha hb
  subst h
  have : a.length = if m.self.isSome then 1 else 0 := by
    unfold cSelf at ha
    split at ha
    · obtain ⟨c, -, rfl⟩ := Option.map_eq_some_iff.mp ha; simp [*]  -- a receiver
    · cases ha; simp [*]  -- no receiver
  simp [this, optMapM_length hb]

theorem cppArgs_length {env : Env} {m : AMethod} {args : List String} (h : cppArgs env m = some args) :
    args.length = (if m.self.isSome then 1 else 0) + (cppParams m).length + (if hasWriteParam m then 1 else 0) := by
  unfold cppArgs at h
  split at h <;> cases h
  rename_i conv hconv
  simp only [List.length_append, optMapM_length hconv, apply_ite List.length, List.length_cons, List.length_nil]

open DiplomatModel.KtNative in
theorem ktNativeParams_length {env : Env} {owner : String} {m : AMethod} {ks : List String}
    (h : ktNativeParams env owner m = some ks) :
    ks.length = (if m.self.isSome then 1 else 0) + (cppParams m).length + (if hasWriteParam m then 1 else 0) := by
  unfold ktNativeParams at h
  extract_lets selfP at h
  split at h <;> cases h  -- `ks = a ++ b ++ write`: the receiver `a` (`ha`) and the parameters `b` (`hb`) were declared
  rename_i a b ha hb
  simp only [List.length_append, optMapM_length hb, apply_ite List.length, List.length_cons, List.length_nil]
  congr 2
  cases hs : m.self <;> simp only [selfP, hs] at ha
  · cases ha; rfl  -- no receiver
  · unfold ktSelf at ha; split at ha <;> cases ha <;> rfl  -- a receiver, of one of three kinds

end DiplomatModel
