import DiplomatModel.EnvOrder
namespace DiplomatModel.EnvOrder
open Std

section Map
variable {K V : Type} [Ord K]

def Sorted (l : List (K × V)) : Prop := l.Pairwise fun a b => compare a.1 b.1 = .lt

theorem sorted_nil : Sorted ([] : List (K × V)) := List.Pairwise.nil

theorem sorted_cons {k : K} {v : V} {tl : List (K × V)} :
    Sorted ((k, v) :: tl) ↔ (∀ x ∈ tl, compare k x.1 = .lt) ∧ Sorted tl :=
  List.pairwise_cons

theorem find_none_of_lt {k : K} {l : List (K × V)} (h : ∀ x ∈ l, compare k x.1 = .lt) : find k l = none := by
  induction l with
  | nil => rfl
  | cons hd tl ih =>
    rw [find, h hd List.mem_cons_self]
    exact ih fun x hx => h x (List.mem_cons_of_mem _ hx)

theorem forall_mem_ins {P : K × V → Prop} {k : K} {v : V} {l : List (K × V)} (hk : P (k, v))
    (hl : ∀ x ∈ l, P x) : ∀ x ∈ ins k v l, P x := by
  fun_induction ins k v l
  case case1 => exact List.forall_mem_singleton.mpr hk  -- the list has ended: `(k, v)` goes here
  case case2 => exact List.forall_mem_cons.mpr ⟨hk, hl⟩  -- before the head
  case case3 => exact List.forall_mem_cons.mpr ⟨hk, (List.forall_mem_cons.mp hl).2⟩  -- in place of the head
  case case4 ih =>  -- further down
    have ⟨h1, h2⟩ := List.forall_mem_cons.mp hl
    exact List.forall_mem_cons.mpr ⟨h1, ih h2⟩

variable [TransOrd K] [LawfulEqOrd K]

omit [LawfulEqOrd K] in
theorem lt_of_lt_head {k k1 : K} {v1 : V} {tl : List (K × V)} (hs : Sorted ((k1, v1) :: tl))
    (h : compare k k1 = .lt) : ∀ x ∈ (k1, v1) :: tl, compare k x.1 = .lt :=
  List.forall_mem_cons.mpr ⟨h, fun x hx => TransCmp.lt_trans h ((sorted_cons.mp hs).1 x hx)⟩

theorem find_ins (k k' : K) (v : V) (l : List (K × V)) :
    find k' (ins k v l) = if compare k' k = .eq then some v else find k' l := by
  fun_induction ins k v l
  case case1 | case2 => simp only [find]; cases compare k' k <;> rfl  -- at the end of the list, or before the head
  case case3 h =>  -- in place of the head
    obtain rfl := compare_eq_iff_eq.mp h
    simp only [find]; cases compare k' k <;> rfl
  case case4 k1 _ _ h ih =>  -- further down
    simp only [find, ih]
    cases h2 : compare k' k1 with
    | eq => obtain rfl := compare_eq_iff_eq.mp h2; simp [OrientedCmp.lt_of_gt h]
    | lt | gt => rfl

theorem sorted_ins {k : K} {v : V} {l : List (K × V)} (hs : Sorted l) : Sorted (ins k v l) := by
  fun_induction ins k v l
  case case1 => simp [Sorted]  -- at the end of the list
  case case2 h => exact sorted_cons.mpr ⟨lt_of_lt_head hs h, hs⟩  -- before the head
  case case3 h => obtain rfl := compare_eq_iff_eq.mp h; exact sorted_cons.mpr (sorted_cons.mp hs)  -- in place of the head
  case case4 h ih =>  -- further down
    have ⟨hlt, htl⟩ := sorted_cons.mp hs
    exact sorted_cons.mpr ⟨forall_mem_ins (OrientedCmp.lt_of_gt h) hlt, ih htl⟩

theorem upd_eq_ins {k : K} {f : V → V} {l : List (K × V)} (hs : Sorted l) :
    upd k f l = (find k l).map fun v => ins k (f v) l := by
  induction l with
  | nil => rfl
  | cons hd tl ih =>
    obtain ⟨k1, v1⟩ := hd
    cases h : compare k k1 with
    | lt =>  -- below the head: not in the list
      have hn : find k tl = none := find_none_of_lt (List.forall_mem_cons.mp (lt_of_lt_head hs h)).2
      simp [upd, find, h, ih (sorted_cons.mp hs).2, hn]
    | eq => obtain rfl := compare_eq_iff_eq.mp h; simp [upd, find, ins]
    | gt =>
      simp only [upd, find, ins, h, ih (sorted_cons.mp hs).2]
      cases find k tl <;> rfl

theorem sorted_ext {l1 l2 : List (K × V)} (h1 : Sorted l1) (h2 : Sorted l2)
    (h : ∀ k, find k l1 = find k l2) : l1 = l2 := by
  have find_head (k : K) (v : V) (tl : List (K × V)) : find k ((k, v) :: tl) = some v := by
    simp [find, ReflCmp.compare_self]
  induction l1 generalizing l2 with
  | nil =>
    cases l2 with
    | nil => rfl
    | cons hd tl => have := h hd.1; rw [find_head] at this; cases this
  | cons hd1 t1 ih =>
    obtain ⟨k1, v1⟩ := hd1
    cases l2 with
    | nil => have := h k1; rw [find_head] at this; cases this
    | cons hd2 t2 =>
      obtain ⟨k2, v2⟩ := hd2
      -- the smaller of two different heads would be found in one list and not in the other
      obtain rfl : k1 = k2 := by
        cases hc : compare k1 k2 with
        | eq => exact compare_eq_iff_eq.mp hc
        | lt => have := h k1; rw [find_head, find_none_of_lt (lt_of_lt_head h2 hc)] at this; cases this
        | gt => have := h k2; rw [find_head, find_none_of_lt (lt_of_lt_head h1 (OrientedCmp.lt_of_gt hc))] at this; cases this
      obtain rfl : v1 = v2 := by simpa [find_head] using h k1
      congr 1
      refine ih (sorted_cons.mp h1).2 (sorted_cons.mp h2).2 fun k => ?_
      cases hc : compare k k1 with
      | eq =>
        obtain rfl := compare_eq_iff_eq.mp hc
        rw [find_none_of_lt (sorted_cons.mp h1).1, find_none_of_lt (sorted_cons.mp h2).1]
      | lt | gt => simpa [find, hc] using h k

end Map

/-! ### folds that act key by key

`Module::from_syn` and `File::from` are both a loop over source items that inserts into, or updates, a `BTreeMap`
and may panic.  What such a loop does to the value under one key depends only on that value and on the items
about that key; the loop panics iff it does so for some key.  That alone gives independence of the order in
which items about different keys are interleaved, once and for both loops. -/

section PerKey
variable {K V I : Type} [Ord K]
  {step : List (K × V) → I → Option (List (K × V))} {on : K → Option V → I → Option (Option V)}

/-- `step` acts key by key: `find k` takes a step to `on k`, which looks at the value under `k` and the item only;
    `step` fails only if some `on k` does -/
structure PerKey (step : List (K × V) → I → Option (List (K × V))) (on : K → Option V → I → Option (Option V)) :
    Prop where
  step_spec {m i} : Sorted m →
    match step m i with
    | some m' => Sorted m' ∧ ∀ k, on k (find k m) i = some (find k m')
    | none => ∃ k, on k (find k m) i = none

namespace PerKey
variable (P : PerKey step on)
include P

theorem step_some {m m' : List (K × V)} {i : I} (hs : Sorted m) (h : step m i = some m') :
    Sorted m' ∧ ∀ k, on k (find k m) i = some (find k m') := by
  have := P.step_spec hs (i := i); rwa [h] at this

theorem step_none {m : List (K × V)} {i : I} (hs : Sorted m) (h : step m i = none) :
    ∃ k, on k (find k m) i = none := by
  have := P.step_spec hs (i := i); rwa [h] at this

/-- a loop over such a step acts key by key as well: under `k` it is the loop over `on k` -/
theorem loop : PerKey (fun m (is : List I) => is.foldlM step m) (fun k o is => is.foldlM (on k) o) where
  step_spec {m is} hs := by
    induction is generalizing m with
    | nil => exact ⟨hs, fun _ => rfl⟩
    | cons i is ih =>
      simp only [List.foldlM_cons]
      cases hst : step m i with
      | none => exact (P.step_none hs hst).imp fun k hk => by rw [hk]; rfl
      | some m1 =>
        obtain ⟨hs1, hon⟩ := P.step_some hs hst
        simpa only [hon, Option.bind_eq_bind, Option.bind_some] using ih hs1

/-- two loops that do the same under `k` leave the same value under `k` -/
theorem find_eq_of_on_eq {a b : List I} {m ma mb : List (K × V)} (hs : Sorted m)
    (ha : a.foldlM step m = some ma) (hb : b.foldlM step m = some mb) {k : K}
    (h : a.foldlM (on k) (find k m) = b.foldlM (on k) (find k m)) : find k ma = find k mb :=
  Option.some.inj (((P.loop.step_some hs ha).2 k).symm.trans (h.trans ((P.loop.step_some hs hb).2 k)))

/-- two loops that do the same under every key do the same -/
theorem foldlM_congr [TransOrd K] [LawfulEqOrd K] {a b : List I} {m : List (K × V)} (hs : Sorted m)
    (h : ∀ k, a.foldlM (on k) (find k m) = b.foldlM (on k) (find k m)) : a.foldlM step m = b.foldlM step m := by
  have fails {a b : List I} (h : ∀ k, a.foldlM (on k) (find k m) = b.foldlM (on k) (find k m))
      (ha : a.foldlM step m = none) : b.foldlM step m = none := by
    obtain ⟨k, hk⟩ := P.loop.step_none hs ha
    cases hb : b.foldlM step m with
    | none => rfl
    | some mb => have := (P.loop.step_some hs hb).2 k; rw [← h k, hk] at this; cases this
  cases ha : a.foldlM step m with
  | none => exact (fails h ha).symm
  | some ma =>
    cases hb : b.foldlM step m with
    | none => rw [fails (fun k => (h k).symm) hb] at ha; cases ha
    | some mb =>
      exact congrArg _ (sorted_ext (P.loop.step_some hs ha).1 (P.loop.step_some hs hb).1 fun k =>
        P.find_eq_of_on_eq hs ha hb (h k))

end PerKey

/-- a fold sees only the items it does not skip -/
theorem foldlM_eq_of_filter_eq {O : Type} {on : O → I → Option O} {p : I → Bool}
    (hskip : ∀ {o i}, p i = false → on o i = some o) {a b : List I} (h : a.filter p = b.filter p) (o : O) :
    a.foldlM on o = b.foldlM on o := by
  have skip (is : List I) : (is.filter p).foldlM on o = is.foldlM on o := by
    rw [List.foldlM_filter]
    congr; funext o i
    cases hp : p i with
    | true => rfl
    | false => exact (hskip hp).symm
  rw [← skip a, h, skip b]

end PerKey

/-! ### `Module::from_syn`, type by type -/

/-- the items that concern type `n`: its declaration and its impl blocks -/
def Item.about (n : String) : Item → Bool
  | .ty n' _ => n == n'
  | .impl n' _ => n == n'
  | .other => false

/-- what one item does to the entry of type `n`; `none` = the `expect` on a missing self type -/
def Item.on (n : String) (cur : Option Entry) : Item → Option (Option Entry)
  | .ty n' d => some (if n = n' then some ⟨d, []⟩ else cur)
  | .impl n' ms => if n = n' then cur.map fun e => some { e with methods := e.methods ++ ms } else some cur
  | .other => some cur

theorem runItems_eq_foldlM (m : TypeMap) (items : List Item) : runItems m items = items.foldlM stepItem m := by
  induction items generalizing m with
  | nil => rfl
  | cons i is ih => rw [runItems, List.foldlM_cons]; cases stepItem m i <;> simp [ih]

theorem stepItem_perKey : PerKey stepItem Item.on where
  step_spec {m i} hs := by
    cases i with
    | ty n d => exact ⟨sorted_ins hs, fun k => by simp [Item.on, find_ins]⟩
    | impl n ms =>
      simp only [stepItem, upd_eq_ins hs]
      cases hf : find n m with
      | none => exact ⟨n, by simp [Item.on, hf]⟩
      | some e =>
        refine ⟨sorted_ins hs, fun k => ?_⟩
        by_cases hk : k = n
        · subst hk; simp [Item.on, find_ins, hf]
        · simp [Item.on, find_ins, hk]
    | other => exact ⟨hs, fun _ => rfl⟩

theorem Item.on_skip {k : String} {o : Option Entry} {i : Item} (h : Item.about k i = false) : Item.on k o i = some o := by
  cases i <;> simp_all [Item.about, Item.on]

/-! ### `File::from`, module by module -/

/-- the top-level items that concern module `n` -/
def Top.about (n : String) : Top → Bool
  | .bridge n' _ => n == n'
  | .plain n' => n == n'
  | .other => false

/-- what one top-level item does to the module `n`; `none` = its `from_syn` panics -/
def Top.on (n : String) (cur : Option TypeMap) : Top → Option (Option TypeMap)
  | .bridge n' items => if n = n' then (fromItems items).map some else some cur
  | .plain n' => some (if n = n' then some [] else cur)
  | .other => some cur

theorem runTops_eq_foldlM (f : FileMap) (tops : List Top) : runTops f tops = tops.foldlM stepTop f := by
  induction tops generalizing f with
  | nil => rfl
  | cons t ts ih => rw [runTops, List.foldlM_cons]; cases stepTop f t <;> simp [ih]

theorem stepTop_perKey : PerKey stepTop Top.on where
  step_spec {f t} hs := by
    cases t with
    | bridge n items =>
      simp only [stepTop]
      cases hi : fromItems items with
      | none => exact ⟨n, by simp [Top.on, hi]⟩
      | some m => exact ⟨sorted_ins hs, fun k => by by_cases hk : k = n <;> simp [Top.on, find_ins, hk, hi]⟩
    | plain n => exact ⟨sorted_ins hs, fun k => by simp [Top.on, find_ins]⟩
    | other => exact ⟨hs, fun _ => rfl⟩

theorem Top.on_skip {k : String} {o : Option TypeMap} {t : Top} (h : Top.about k t = false) : Top.on k o t = some o := by
  cases t <;> simp_all [Top.about, Top.on]

end DiplomatModel.EnvOrder
