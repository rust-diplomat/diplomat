import DiplomatModel.Write
namespace DiplomatModel.Write

/-- `len ≤ cap ≤ physical size` -/
structure Inv (w : W) : Prop where
  lenCap : w.len ≤ w.cap
  capPhys : w.cap ≤ w.buf.length

/-- every store recorded so far went to an index below the bound that held when it was made -/
def StoresOk (w : W) : Prop := ∀ e ∈ w.stores, e.1 < e.2

theorem Inv.lenPhys {w : W} (hi : Inv w) : w.len ≤ w.buf.length := Nat.le_trans hi.lenCap hi.capPhys

theorem copyAt_length (buf : List Nat) (a : Nat) (c : List Nat) : (copyAt buf a c).length = buf.length := by
  induction c generalizing buf a with
  | nil => rfl
  | cons b bs ih => simp [copyAt, ih]

theorem take_set_succ (buf : List Nat) (a b : Nat) (h : a < buf.length) :
    (buf.set a b).take (a + 1) = buf.take a ++ [b] := by
  rw [List.take_succ_eq_append_getElem (by rwa [List.length_set]), List.take_set_of_le (Nat.le_refl a),
    List.getElem_set_self]

theorem copyAt_spec (buf : List Nat) (a : Nat) (c : List Nat) (h : a + c.length ≤ buf.length) :
    copyAt buf a c = buf.take a ++ c ++ buf.drop (a + c.length) := by
  induction c generalizing buf a with
  | nil => simp [copyAt]
  | cons b bs ih =>
    have hb : a + 1 + bs.length = a + (b :: bs).length := Nat.add_right_comm a 1 _
    have ha : a < buf.length := Nat.lt_of_lt_of_le (Nat.lt_add_of_pos_right (Nat.succ_pos _)) h
    rw [copyAt, ih _ _ (by rwa [List.length_set, hb]), take_set_succ buf a b ha, List.drop_set,
      if_pos (Nat.lt_of_lt_of_le (Nat.lt_succ_self a) (Nat.le_add_right _ _)), hb]
    simp

theorem contents_copyChunk {w : W} {c : List Nat} (hi : Inv w) (h : w.len + c.length ≤ w.cap) :
    contents (copyChunk w c) = contents w ++ c := by
  show (copyAt w.buf w.len c).take (w.len + c.length) = w.buf.take w.len ++ c
  rw [copyAt_spec _ _ _ (Nat.le_trans h hi.capPhys)]
  exact List.take_left' (by rw [List.length_append, List.length_take_of_le hi.lenPhys])

theorem inv_copyChunk {w : W} {c : List Nat} (hi : Inv w) (h : w.len + c.length ≤ w.cap) :
    Inv (copyChunk w c) :=
  ⟨h, by simpa [copyChunk, copyAt_length] using hi.capPhys⟩

theorem stores_copyChunk (w : W) (c : List Nat) (hs : StoresOk w) (h : w.len + c.length ≤ w.cap) :
    StoresOk (copyChunk w c) := by
  refine List.forall_mem_append.mpr ⟨hs, fun e he => ?_⟩
  -- byte `k < c.length` of the chunk goes to `len + k`, below `len + c.length ≤ cap`
  obtain ⟨k, hk, rfl⟩ := List.mem_map.mp he
  exact Nat.lt_of_lt_of_le (Nat.add_lt_add_left (List.mem_range.mp hk) _) h

theorem inv_grown (w : W) (r e : Nat) (hi : Inv w) (hr : w.len ≤ r) : Inv (grown w r e) := by
  have hl : w.len ≤ r + e := Nat.le_add_right_of_le hr
  refine ⟨hl, Nat.le_of_eq ?_⟩
  -- the buffer `grow` hands back has exactly the `r + e` bytes it reports as capacity
  show r + e = (w.buf.take w.len ++ List.replicate (r + e - w.len) 0).length
  rw [List.length_append, List.length_take_of_le hi.lenPhys, List.length_replicate, Nat.add_sub_cancel' hl]

theorem contents_grown {w : W} {r e : Nat} (hi : Inv w) : contents (grown w r e) = contents w :=
  List.take_left' (l₂ := List.replicate (r + e - w.len) 0) (List.length_take_of_le hi.lenPhys)

theorem stores_writeStr (w : W) (c : List Nat) (g : Option Nat) (hs : StoresOk w) : StoresOk (writeStr w c g).1 := by
  fun_cases writeStr w c g with
  | case1 | case2 => exact hs  -- failed before, or growth refused: no store
  | case3 _ _ e => exact stores_copyChunk (grown w (w.len + c.length) e) c hs (Nat.le_add_right _ e)  -- grown (which stores nothing)
  | case4 g _ hn => exact stores_copyChunk w c hs (Nat.le_of_not_gt hn)  -- room enough

theorem writeStr_spec (w : W) (c : List Nat) (g : Option Nat) (hi : Inv w) :
    Inv (writeStr w c g).1
      ∧ contents (writeStr w c g).1 = contents w ++ (if (writeStr w c g).2.1 then c else [])
      ∧ ((writeStr w c g).2.1 = false → (writeStr w c g).1.failed = true) := by
  fun_cases writeStr w c g with
  | case1 g hf => exact ⟨hi, (List.append_nil _).symm, fun _ => hf⟩  -- failed before
  | case2 => exact ⟨⟨hi.lenCap, hi.capPhys⟩, (List.append_nil _).symm, fun _ => rfl⟩  -- growth refused
  | case3 _ _ e =>  -- grown, with `e` bytes to spare
    have hig := inv_grown w (w.len + c.length) e hi (Nat.le_add_right ..)
    have hle : (grown w (w.len + c.length) e).len + c.length ≤ (grown w (w.len + c.length) e).cap :=
      Nat.le_add_right _ e
    exact ⟨inv_copyChunk hig hle, by rw [contents_copyChunk hig hle, contents_grown hi]; rfl, nofun⟩
  | case4 g _ hn =>  -- room enough
    have hle : w.len + c.length ≤ w.cap := Nat.le_of_not_gt hn
    exact ⟨inv_copyChunk hi hle, contents_copyChunk hi hle, nofun⟩

theorem run_failed (d : Option Nat) (w : W) (cs : List (List Nat)) (gs : List (Option Nat))
    (hf : w.failed = true) : run d w cs gs = (w, List.replicate cs.length false) := by
  induction cs generalizing gs with
  | nil => simp [run]
  | cons c cs ih =>
    simp only [run, writeStr, hf, if_true, Bool.false_eq_true, if_false]
    rw [ih gs]
    simp [List.replicate_succ]

/-- a property that `write_str` preserves under every answer `grow` can get in this run (one of `gs`, or `d`)
    holds after the run -/
theorem run_preserves {P : W → Prop} {d : Option Nat} (cs : List (List Nat)) (w : W) (gs : List (Option Nat))
    (step : ∀ w c, ∀ g ∈ d :: gs, P w → P (writeStr w c g).1) (h : P w) : P (run d w cs gs).1 := by
  induction cs generalizing w gs with
  | nil => exact h
  | cons c cs ih =>
    have hn : nextAns d gs ∈ d :: gs := by cases gs <;> simp [nextAns]
    refine ih _ _ (fun w c g hg => step w c g ?_) (step w c _ hn h)
    split at hg
    · -- `grow` was called: the script has lost its head
      exact List.mem_cons.mpr ((List.mem_cons.mp hg).imp_right List.mem_of_mem_tail)
    · exact hg  -- `grow` was not called: the script is as it was

theorem inv_run (d : Option Nat) (w : W) (cs : List (List Nat)) (gs : List (Option Nat)) (hi : Inv w) :
    Inv (run d w cs gs).1 :=
  run_preserves cs w gs (fun w c g _ hi => (writeStr_spec w c g hi).1) hi

/-- the first `k` chunks were written, whole, and nothing after them -/
theorem run_spec (d : Option Nat) (w : W) (cs : List (List Nat)) (gs : List (Option Nat)) (hi : Inv w) :
    ∃ k, k ≤ cs.length
      ∧ (run d w cs gs).2 = List.replicate k true ++ List.replicate (cs.length - k) false
      ∧ contents (run d w cs gs).1 = contents w ++ (cs.take k).flatten
      ∧ (k < cs.length → (run d w cs gs).1.failed = true) := by
  induction cs generalizing w gs with
  | nil => exact ⟨0, Nat.le_refl _, rfl, by simp [run], nofun⟩
  | cons c cs ih =>
    have hw := writeStr_spec w c (nextAns d gs) hi
    simp only [run]
    generalize writeStr w c (nextAns d gs) = r at hw ⊢
    obtain ⟨w', wrote, asked⟩ := r
    obtain ⟨hi', hc', hnf⟩ := hw
    cases wrote with
    | false =>
      -- not written, so the flag is set: nothing is written later either
      simp only [run_failed d w' cs _ (hnf rfl)]
      exact ⟨0, Nat.zero_le _, rfl, by simpa using hc', fun _ => hnf rfl⟩
    | true =>
      obtain ⟨k, hk, ho, hc, hf⟩ := ih w' (if asked = true then gs.tail else gs) hi'
      refine ⟨k + 1, Nat.succ_le_succ hk, ?_, ?_, fun h => hf (Nat.lt_of_succ_lt_succ h)⟩
      · simp only [ho, List.length_cons, Nat.add_sub_add_right, List.replicate_succ, List.cons_append]
      · simp only [hc, hc', List.take_succ_cons, List.flatten_cons, if_true, List.append_assoc]

theorem run_stores (d : Option Nat) (w : W) (cs : List (List Nat)) (gs : List (Option Nat)) (hs : StoresOk w) :
    StoresOk (run d w cs gs).1 :=
  run_preserves cs w gs (fun w c g _ => stores_writeStr w c g) hs

/-- a `grow` that always refuses (the simple writer) leaves capacity and buffer as they were -/
theorem run_nogrow {d : Option Nat} {gs : List (Option Nat)} (hg : ∀ g ∈ d :: gs, g = none) (w : W)
    (cs : List (List Nat)) : (run d w cs gs).1.cap = w.cap ∧ (run d w cs gs).1.buf.length = w.buf.length := by
  refine run_preserves (P := fun w' => w'.cap = w.cap ∧ w'.buf.length = w.buf.length) cs w gs (fun w' c g hg' h => ?_) ⟨rfl, rfl⟩
  fun_cases writeStr w' c g with
  | case1 | case2 => exact h  -- failed before, or growth refused: the buffer is untouched
  | case3 => cases hg _ hg'  -- grown: no answer grants anything
  | case4 => simpa [copyChunk, copyAt_length] using h  -- room enough

/-- a `grow` that never refuses (Rust-owned buffer, C++ `std::string`), whatever surplus it leaves each time, never
    sets the flag, so everything is written -/
theorem run_infallible {d : Option Nat} {gs : List (Option Nat)} (hg : ∀ g ∈ d :: gs, g ≠ none) (w : W)
    (cs : List (List Nat)) (hi : Inv w) (hf : w.failed = false) :
    contents (run d w cs gs).1 = contents w ++ cs.flatten ∧ (run d w cs gs).1.failed = false := by
  have hnf : (run d w cs gs).1.failed = false := by
    refine run_preserves (P := fun w' => w'.failed = false) cs w gs (fun w' c g hg' h => ?_) hf
    fun_cases writeStr w' c g with
    | case1 | case3 | case4 => exact h  -- failed before, grown, room enough: the flag is untouched
    | case2 => exact absurd rfl (hg none hg')  -- growth refused: `none` is not among the answers
  obtain ⟨k, hle, -, hc, hfail⟩ := run_spec d w cs gs hi
  have hk : k = cs.length := Nat.le_antisymm hle (Nat.le_of_not_lt fun hlt => by simp [hfail hlt] at hnf)
  exact ⟨by rw [hc, hk, List.take_length], hnf⟩

theorem inv_foreignInit (init : List Nat) (cap : Nat) (h : init.length ≤ cap) : Inv (foreignInit init cap) :=
  ⟨h, Nat.le_of_eq (by simp [foreignInit, Nat.add_sub_cancel' h])⟩

theorem storesOk_of_nil {w : W} (h : w.stores = []) : StoresOk w := by
  intro e he; rw [h] at he; cases he

theorem contents_foreignInit (init : List Nat) (cap : Nat) : contents (foreignInit init cap) = init := by
  simp [contents, foreignInit]

end DiplomatModel.Write
