import DiplomatModel.Rename
namespace DiplomatModel.Rename
open DiplomatModel.Cfg

theorem findSub_spec {pat s : Str} {i : Nat} (h : findSub pat s = some i) :
    i + pat.length ≤ s.length ∧ s = s.take i ++ pat ++ s.drop (i + pat.length) := by
  fun_induction findSub pat s generalizing i
  case case1 => cases h  -- the string has ended
  case case2 c cs hp =>  -- the pattern starts here
    cases h
    obtain ⟨t, ht⟩ := List.isPrefixOf_iff_prefix.mp hp
    simp [← ht]
  case case3 c cs hp ih =>  -- it does not: one further than in the tail
    obtain ⟨j, hf, rfl⟩ := Option.map_eq_some_iff.mp h
    have ⟨h1, h2⟩ := ih hf
    exact ⟨by simp only [List.length_cons]; omega, by simpa [Nat.add_right_comm j 1] using h2⟩

theorem findSub_splitFirst (s : Str) :
    splitFirst s = (findSub placeholder s).map fun i => (s.take i, s.drop (i + 3)) := by
  fun_induction findSub placeholder s
  case case1 => rfl
  case case2 c cs hp => simp [splitFirst, hp]  -- the placeholder starts here
  case case3 c cs hp ih =>  -- it does not
    simp only [splitFirst, hp, Bool.false_eq_true, if_false]
    rw [ih]
    cases findSub placeholder cs <;> simp

theorem flatMap_sublist {α β} {f g : α → List β} (l : List α) (h : ∀ a ∈ l, (f a).Sublist (g a)) :
    (l.flatMap f).Sublist (l.flatMap g) := by
  induction l with
  | nil => exact .slnil
  | cons a l ih =>
    rw [List.flatMap_cons, List.flatMap_cons]
    exact (h a List.mem_cons_self).append (ih fun b hb => h b (List.mem_cons_of_mem _ hb))

theorem usedBy_sublist {vd : Validator} {m : Module6} {u : List String} (h : usedBy vd m = some u) :
    u.Sublist (exported m) := by
  unfold usedBy at h
  split at h
  · cases h  -- lowering fails
  · cases h  -- lowering gives the types `lts`
    refine flatMap_sublist _ fun t _ => ?_
    split
    · exact List.nil_sublist _  -- `t` is not among them: nothing
    · split
      · exact List.nil_sublist _  -- `t` is disabled: nothing
      · exact (List.Sublist.refl _).append (flatMap_sublist _ fun i _ => List.filter_sublist.map _)  -- enabled

end DiplomatModel.Rename
