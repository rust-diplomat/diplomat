import DiplomatModel.Config
namespace DiplomatModel.Config

theorem lastOf_nil (k : Key) : lastOf [] k = none := rfl

theorem lastOf_cons (es : List (Key × Val)) (k k' : Key) (v : Val) :
    lastOf ((k', v) :: es) k = (lastOf es k).or (if k' = k then some v else none) := rfl

/-- `lastOf` in closed form: the value of the last entry whose key is `k` -/
theorem lastOf_eq (es : List (Key × Val)) (k : Key) :
    lastOf es k = ((es.filter fun e => e.1 = k).getLast?).map (·.2) := by
  induction es with
  | nil => rfl
  | cons x xs ih =>
    obtain ⟨k', v⟩ := x
    rw [lastOf_cons, ih, List.filter_cons]
    by_cases h : k' = k
    · simp only [h, decide_true, if_true, List.getLast?_cons]
      cases (xs.filter fun e => e.1 = k).getLast? <;> rfl
    · simp [h]

theorem lastOf_append (a b : List (Key × Val)) (k : Key) :
    lastOf (a ++ b) k = (lastOf b k).or (lastOf a k) := by
  rw [lastOf_eq, lastOf_eq, lastOf_eq, List.filter_append, List.getLast?_append, Option.map_or]

theorem lastOf_filter (p : Key → Bool) {k : Key} (hk : p k = true) (es : List (Key × Val)) :
    lastOf (es.filter fun e => p e.1) k = lastOf es k := by
  rw [lastOf_eq, lastOf_eq, List.filter_filter]
  -- among the entries with key `k`, the filter `p` drops none
  congr 2
  apply List.filter_congr
  intro e _
  by_cases h : e.1 = k <;> simp [h, hk]

/-! ### what a target can see of a `Config`

Everything C17 says is about the two shared settings and the override store.  `readKey` presents them as one
lookup by key, so that `Config::set` is "write `v` at `k`, if `k` is a key that is kept at all" and the rest is
the usual last-write-wins argument. -/

def readKey (c : Config) (k : Key) : Option Val :=
  match k.scope with
  | some l => lookupOverride c.overrides (l, k.name)
  | none =>
    match k.name with
    | .libName => c.libName.map .str
    | .unsafeRefs => c.unsafeRefs.map .bool
    | _ => none

/-- the languages with a section of their own in `Config::set` -/
def Lang.scoped : Lang → Bool
  | .kotlin | .demoGen | .nanobind | .js => true
  | .other _ => false

/-- the keys `Config::set` keeps where `readKey` finds them: shared names, unscoped or under one of the four
    languages that have a section -/
def Key.stored (k : Key) : Bool := k.name.isShared && k.scope.all Lang.scoped

theorem lookup_insertOverride (os : List ((Lang × Name) × Val)) (k k' : Lang × Name) (v : Val) :
    lookupOverride (insertOverride os k v) k' = if k = k' then some v else lookupOverride os k' := by
  unfold lookupOverride insertOverride
  rw [List.find?_append, List.find?_filter]
  by_cases h : k = k'
  · subst h
    rw [List.find?_eq_none.mpr (by simp)]
    simp
  · have (p : (Lang × Name) × Val) :
        decide (decide (p.1 ≠ k) = true ∧ decide (p.1 = k') = true) = decide (p.1 = k') := by
      by_cases hp : p.1 = k' <;> simp [hp, Ne.symm h]
    simp only [this]
    simp [h]

theorem sharedSet_readKey {c c' : Config} {n : Name} {v : Val} (h : sharedSet c n v = some c') (k' : Key) :
    readKey c' k' = if (⟨none, n⟩ : Key).stored ∧ ⟨none, n⟩ = k' then some v else readKey c k' := by
  revert h
  fun_cases sharedSet c n v <;> intro h
  all_goals try contradiction  -- a value of the wrong type
  case case5 =>  -- a name `SharedConfig::set` ignores: it is neither of the two shared names
    cases h
    have : n.isShared = false := by cases n <;> first | rfl | contradiction
    simp [Key.stored, this]
  -- `lib_name`, `unsafe_references_in_callbacks`: one field is written; key by key, both sides compute to the same value
  all_goals
    cases h
    obtain ⟨_ | l, m⟩ := k'
    · cases m <;> rfl
    · rfl

@[simp] theorem readKey_kotlinSet (c : Config) (n : Name) (v : Val) : readKey (kotlinSet c n v) = readKey c := by
  unfold kotlinSet; split <;> (try split) <;> rfl

@[simp] theorem readKey_demoSet (c : Config) (n : Name) (v : Val) : readKey (demoSet c n v) = readKey c := by
  unfold demoSet; split <;> rfl

@[simp] theorem readKey_jsSet (c : Config) (n : Name) (v : Val) : readKey (jsSet c n v) = readKey c := by
  unfold jsSet; split <;> rfl

theorem set_readKey {c c' : Config} {k : Key} {v : Val} (h : set c k v = some c') (k' : Key) :
    readKey c' k' = if k.stored ∧ k = k' then some v else readKey c k' := by
  revert h
  fun_cases set c k v <;> intro h
  case case1 hsc =>  -- unscoped: `SharedConfig::set`
    obtain ⟨sc, n⟩ := k
    cases hsc
    exact sharedSet_readKey h k'
  case case3 l hl hsc hn =>  -- a shared name under one of the four languages: an override
    cases h
    have hs : l.scoped = true := by cases l <;> first | rfl | exact (hl _ rfl).elim
    obtain ⟨sc, n⟩ := k
    cases hsc
    obtain ⟨sc', n'⟩ := k'
    cases sc' <;> simp [readKey, Key.stored, hn, hs, lookup_insertOverride]
  -- under any other language the entry is dropped; a language's own setting changes only fields `readKey` does not look at
  all_goals
    cases h
    simp [Key.stored, Lang.scoped, *]

theorem setAll_readKey {es : List (Key × Val)} {c0 c : Config} (h : setAll c0 es = some c) (k : Key) :
    readKey c k = if k.stored then (lastOf es k).or (readKey c0 k) else readKey c0 k := by
  fun_induction setAll c0 es
  case case1 => cases h; simp [lastOf_nil]  -- no entry left
  case case3 => cases h  -- `set` refuses the entry
  case case2 c0 k1 v r c1 hs ih =>  -- `set` stores the entry and the rest is run from there
    rw [ih h, set_readKey hs k, lastOf_cons, Option.or_assoc]
    by_cases hk : k1 = k
    · subst hk; cases k1.stored <;> simp
    · simp [hk]

theorem getOverridden_readKey {c c' : Config} {t : Lang} (h : getOverridden c t = some c') (n : Name)
    (hn : n.isShared = true) : readKey c' ⟨none, n⟩ = (readKey c ⟨some t, n⟩).or (readKey c ⟨none, n⟩) := by
  -- one round of the loop over the shared names, for the name `m`: the override, if there is one, is `set` at the unscoped key
  have round {c c1 : Config} {m : Name} (hm : m.isShared = true)
      (h : (match readKey c ⟨some t, m⟩ with | some v => set c ⟨none, m⟩ v | none => some c) = some c1)
      (k : Key) : readKey c1 k = if ⟨none, m⟩ = k then (readKey c ⟨some t, m⟩).or (readKey c k) else readKey c k := by
    cases hl : readKey c ⟨some t, m⟩ with
    | none => rw [hl] at h; cases h; simp
    | some v => rw [hl] at h; simp [set_readKey h k, Key.stored, hm]
  unfold getOverridden at h
  simp only at h
  split at h
  · cases h  -- the round for `libName` failed
  · rename_i c1 h1  -- it gave `c1`; `h` is the round for `unsafeRefs`
    rw [round rfl h, round rfl h1, round rfl h1]
    cases n <;> simp [Name.isShared] at hn <;> simp [readKey]

/-- **Precedence**, for either shared setting: what a target reads at the end of the pipeline is the latest
    entry scoped to it if its language has a section and there is one, else the latest unscoped entry. -/
theorem pipeline_readKey {file cli attrs : List (Key × Val)} {t : Lang} {c : Config}
    (h : pipeline file cli attrs t = some c) (n : Name) (hn : n.isShared = true) :
    readKey c ⟨none, n⟩ =
      if t.scoped then effectiveShared file cli attrs t n else lastOf (file ++ cli ++ attrs) ⟨none, n⟩ := by
  unfold pipeline at h
  unfold effectiveShared
  generalize file ++ cli ++ attrs = es at h ⊢
  cases hs : setAll {} es with
  | none => rw [hs] at h; cases h
  | some c1 =>
    have h0 (k : Key) : readKey {} k = none := by unfold readKey; split <;> (try split) <;> rfl
    rw [hs] at h
    rw [getOverridden_readKey h n hn, setAll_readKey hs, setAll_readKey hs, h0, h0]
    cases ht : t.scoped <;> simp [Key.stored, hn, ht]
    cases lastOf es ⟨some t, n⟩ <;> rfl  -- the `match` of `effectiveShared` is `Option.or`

theorem splitFirstEq_append (k r : List Char) (hk : '=' ∉ k) :
    splitFirstEq (k ++ r) = (splitFirstEq r).map fun p => (k ++ p.1, p.2) := by
  induction k with
  | nil => simp
  | cons c cs ih =>
    have hc : c ≠ '=' := fun h => hk (by simp [h])
    have hcs : '=' ∉ cs := fun h => hk (by simp [h])
    simp only [List.cons_append, splitFirstEq, hc, if_false, ih hcs]
    cases splitFirstEq r <;> rfl

end DiplomatModel.Config
