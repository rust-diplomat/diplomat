import DiplomatModel.JsSlot
import DiplomatModel.Lemmas.Wire
namespace DiplomatModel.JsSlot
open DiplomatModel.Wire DiplomatModel.JsLayout

/-- `roundUp p a` is the multiple of `a` in `[p, p + a)` -/
theorem roundUp_eq {p a x : Nat} (hx : x % a = 0) (hle : p ≤ x) (hlt : x < p + a) : roundUp p a = x := by
  rw [roundUp, padTo_unique (p := x - p) (Nat.sub_lt_left_of_lt_add hle hlt) (by rwa [Nat.add_sub_cancel' hle]),
    Nat.add_sub_cancel' hle]

/-- rounding up by `div_ceil` (the generator, converter.rs) and by adding the padding (repr(C)) are the same number -/
theorem divCeil_mul (p a : Nat) (ha : 0 < a) : divCeil p a * a = roundUp p a := by
  have hle : p ≤ divCeil p a * a := Nat.le_of_add_le_add_right (Nat.le_of_pred_lt (Nat.lt_div_mul_add ha))
  have hlt : divCeil p a * a < p + a :=
    Nat.lt_of_le_of_lt (Nat.div_mul_le_self _ _) (Nat.sub_lt (Nat.add_pos_right p ha) Nat.one_pos)
  exact (roundUp_eq (Nat.mul_mod_left _ _) hle hlt).symm

theorem roundUp_of_mod_zero (p a : Nat) (h : p % a = 0) : roundUp p a = p := by
  rw [roundUp, padTo_of_mod_zero h, Nat.add_zero]

/-- every boundary type's size is a multiple of its alignment (C08's repr(C) characterisation for structs) -/
theorem size_mod_align : ∀ (t : WTy), t.WF → size t % align t = 0
  | .unit, _ => Nat.zero_mod _
  | .scalar s, _ => Nat.mod_self s
  | .struct fs, h => fieldInfoOf_size_mod (layouts_ne fs h.1) (layouts_pos fs h.2)
  | .result ok err, h => add_padTo_mod _ (align_pos (.result ok err) h)

/-- with an error payload, the receive buffer is the `DiplomatResult` record up to and including its flag -/
theorem resultSlot_some (ok : Succ) (e : WTy) (he : 0 < align e) :
    resultSlot ok (some e) = (flagOffset (rustOk ok) e + 1, align (.result (rustOk ok) e)) := by
  cases ok with
  | unit | out t =>
    -- both sides unfold to the same `max` of sizes and of alignments; only the rounding is written differently
    exact congrArg (· + 1, _) (divCeil_mul _ _ (Nat.lt_of_lt_of_le he (Nat.le_max_right _ _)))
  | write =>
    show (divCeil (max (size e) (size e)) (max (align e) (align e)) * max (align e) (align e) + 1, max (align e) (align e))
      = (roundUp (max 0 (size e)) (max 1 (align e)) + 1, max 1 (align e))
    rw [Nat.max_self, Nat.max_self, Nat.zero_max, Nat.max_eq_right he, divCeil_mul _ _ he]

/-- without an error payload the flag is read directly behind the value, which is where Rust puts it when the value's
    size is a multiple of its alignment -/
theorem resultSlot_none (t : WTy) (ha : 0 < align t) (hm : size t % align t = 0) :
    flagByte (.out t) none = flagOffset t .unit ∧ (resultSlot (.out t) none).2 = align (.result t .unit) := by
  have h1 : max (align t) (align .unit) = align t := Nat.max_eq_left ha
  constructor
  · show size t + 1 - 1 = roundUp (max (size t) 0) (max (align t) (align .unit))
    rw [h1, Nat.max_zero, roundUp_of_mod_zero _ _ hm, Nat.add_sub_cancel]
  · exact h1.symm

end DiplomatModel.JsSlot
