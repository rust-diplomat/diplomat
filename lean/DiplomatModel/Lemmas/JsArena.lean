import DiplomatModel.JsArena
namespace DiplomatModel.JsArena

theorem pushAt_eq_modify (xs : List (List Nat)) (i a : Nat) : pushAt xs i a = xs.modify i (· ++ [a]) := by
  induction xs generalizing i with
  | nil => cases i <;> rfl
  | cons x xs ih => cases i <;> simp [pushAt, ih]

theorem pushAll_length (xs : List (List Nat)) (a : Nat) (es : List (Option Nat)) : (pushAll xs a es).length = xs.length := by
  induction es generalizing xs with
  | nil => rfl
  | cons e es ih => cases e <;> simp [pushAll, ih, pushAt_eq_modify]

/-- **What a call does to array `j`**: it appends the arena once for every time the call names `j`. -/
theorem pushAll_getElem? (xs : List (List Nat)) (a : Nat) (es : List (Option Nat)) (j : Nat) :
    (pushAll xs a es)[j]? = xs[j]?.map (· ++ List.replicate (es.count (some j)) a) := by
  induction es generalizing xs with
  | nil => simp [pushAll]
  | cons e es ih =>
    cases e with
    | none => rw [pushAll, ih, List.count_cons_of_ne (by simp)]
    | some i =>
      rw [pushAll, ih, pushAt_eq_modify, List.getElem?_modify, Option.map_eq_map, Option.map_map]
      by_cases h : i = j
      · simp only [h, List.count_cons_self, if_true, Function.comp_def, List.append_assoc, List.singleton_append,
          ← List.replicate_succ]
      · simp only [List.count_cons_of_ne (fun e => h (Option.some.inj e)), if_neg h, Function.comp_def]

theorem pushAll_keeps (xs : List (List Nat)) (a : Nat) (es : List (Option Nat)) (j b : Nat)
    (h : ∃ l, xs[j]? = some l ∧ b ∈ l) : ∃ l, (pushAll xs a es)[j]? = some l ∧ b ∈ l := by
  obtain ⟨l, hl, hb⟩ := h
  exact ⟨_, by rw [pushAll_getElem?, hl]; rfl, List.mem_append_left _ hb⟩

theorem pushAll_mem (xs : List (List Nat)) (a : Nat) (es : List (Option Nat)) (i : Nat)
    (hi : some i ∈ es) (hl : i < xs.length) : ∃ l, (pushAll xs a es)[i]? = some l ∧ a ∈ l :=
  ⟨_, by rw [pushAll_getElem?, List.getElem?_eq_getElem hl]; rfl,
    List.mem_append_right _ (List.mem_replicate.mpr ⟨Nat.ne_of_gt (List.count_pos_iff.mpr hi), rfl⟩)⟩

theorem runCalls_keeps (s : St) (cs : List (List (Option Nat))) (j b : Nat)
    (h : ∃ l, s.arrays[j]? = some l ∧ b ∈ l) : ∃ l, (runCalls s cs).arrays[j]? = some l ∧ b ∈ l := by
  induction cs generalizing s with
  | nil => exact h
  | cons c cs ih => exact ih _ (pushAll_keeps s.arrays s.next c j b h)

end DiplomatModel.JsArena
