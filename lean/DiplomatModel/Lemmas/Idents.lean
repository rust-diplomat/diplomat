import DiplomatModel.Idents
namespace DiplomatModel.Idents

theorem stripCommon_spec {bd pd b p : List String} (h : stripCommon bd pd = (b, p)) :
    ∃ c, bd = c ++ b ∧ pd = c ++ p := by
  fun_induction stripCommon bd pd with
  | case1 bs x ps ih =>  -- both paths start with `x`
    obtain ⟨c, h1, h2⟩ := ih h
    exact ⟨x :: c, congrArg (x :: ·) h1, congrArg (x :: ·) h2⟩
  | case2 | case3 => cases h; exact ⟨[], rfl, rfl⟩  -- the first components differ, or a path has ended

theorem resolve_plain (d r : List String) (h : ∀ s ∈ r, s ≠ "..") : resolve d r = d ++ r := by
  fun_induction resolve d r
  case case1 => simp  -- the path has ended
  case case2 => exact absurd rfl (h ".." List.mem_cons_self)  -- `..`: there is none
  case case3 d s rest _ ih =>  -- a name: one directory down
    rw [ih fun x hx => h x (List.mem_cons_of_mem _ hx)]; simp

theorem resolve_ups (c b r : List String) :
    resolve (c ++ b) (List.replicate b.length ".." ++ r) = resolve c r := by
  induction b generalizing c r with
  | nil => simp
  | cons x xs ih =>
    -- the last `..` undoes `x`, those before it undo `xs`
    rw [List.append_cons c x xs, List.length_cons, List.replicate_succ', List.append_assoc (List.replicate _ _), ih]
    simp [resolve]

/-! ### keyword tables under kernel evaluation

What the kernel pays for is reading a string literal: every character goes through `Char.ofNat` and the UTF-8
encoder.  So each keyword is read once, as the base-256 numeral of its bytes, and facts about whole tables are
evaluated on these numerals, where a comparison is one step (`Nat.beq` on numerals is built into the kernel) and
appending `_` is `· * 256 + 95`. -/

/-- base-256 digits, least significant first, under a leading 1 that records how many there are -/
def numeral : List UInt8 → Nat
  | [] => 1
  | b :: bs => numeral bs * 256 + b.toNat

theorem numeral_pos (bs : List UInt8) : 0 < numeral bs := by
  induction bs with
  | nil => decide
  | cons b bs ih => simp only [numeral]; omega

/-- the lowest digit and the rest come back as remainder and quotient -/
theorem numeral_cons (b : UInt8) (bs : List UInt8) :
    numeral (b :: bs) / 256 = numeral bs ∧ numeral (b :: bs) % 256 = b.toNat :=
  (Nat.div_mod_unique (by decide)).mpr ⟨by rw [numeral, Nat.mul_comm, Nat.add_comm], b.toNat_lt⟩

theorem numeral_inj : ∀ {a b : List UInt8}, numeral a = numeral b → a = b
  | [], [], _ => rfl
  | [], b :: bs, h | b :: bs, [], h => by
    have := numeral_pos bs
    simp only [numeral] at h; omega
  | a :: as, b :: bs, h => by
    have hab := numeral_cons a as
    rw [h, (numeral_cons b bs).1, (numeral_cons b bs).2] at hab
    rw [numeral_inj hab.1.symm, UInt8.toNat_inj.mp hab.2.symm]

/-- a string as a number: the numeral of its UTF-8 bytes, the last byte the lowest digit -/
def code (s : String) : Nat := numeral s.toByteArray.data.toList.reverse

theorem code_inj {a b : String} : code a = code b ↔ a = b := by
  rw [← String.toByteArray_inj, ByteArray.ext_iff, ← Array.toList_inj, ← List.reverse_inj]
  exact ⟨numeral_inj, congrArg numeral⟩

theorem code_underscore (s : String) : code (s ++ "_") / 256 = code s ∧ code (s ++ "_") % 256 = 95 := by
  rw [code, String.toByteArray_append, ByteArray.data_append, Array.toList_append, List.reverse_append]
  exact numeral_cons 95 _

theorem any_beq_code (kws : List String) (k : String) :
    (kws.map code).any (Nat.beq (code k)) = kws.contains k := by
  have h (k' : String) : Nat.beq (code k) (code k') = (k == k') := by
    rw [Bool.eq_iff_iff, Nat.beq_eq, beq_iff_eq, code_inj]
  simp only [List.contains_eq_any_beq, List.any_map, Function.comp_def, h]

/-- What is evaluated about a keyword table `kws` and a list `std` of words it has to contain, in one pass so that
    the table is read once: no keyword is another one followed by `_` (only a numeral that ends in the digit 95
    can be, and then the table is searched for the rest of it), and every word of `std` is in the table. -/
def tableCheck (kws std : List String) : Bool :=
  let cs := kws.map code
  (cs.all fun c => c % 256 != 95 || !cs.any (Nat.beq (c / 256))) && std.all fun k => cs.any (Nat.beq (code k))

theorem of_tableCheck {kws std : List String} (h : tableCheck kws std = true) :
    (kws.all fun k => !kws.contains (k ++ "_")) = true ∧ (std.all fun k => kws.contains k) = true := by
  simp only [tableCheck, Bool.and_eq_true, any_beq_code] at h
  refine ⟨List.all_eq_true.mpr fun k hk => ?_, h.2⟩
  cases hc : kws.contains (k ++ "_") with
  | false => rfl
  | true =>
    -- the first check, at the numeral of `k ++ "_"`, finds `k`
    have := List.all_eq_true.mp h.1 _ (List.mem_map_of_mem (List.contains_iff_mem.mp hc))
    rw [(code_underscore k).1, (code_underscore k).2, any_beq_code, List.contains_iff_mem.mpr hk] at this
    cases this

end DiplomatModel.Idents
