/-
  `validUtf8 = IsUtf8`, one round of the automaton at a time: a round passes over `enc c` for a scalar `c`
  (`valid_enc_append`, whence `complete`), and what a round accepts is `enc c` for a scalar `c` (the branches of
  `sound`, an induction along the automaton's own recursion).

  A code point is handled through its base-64 digits, `((h * 64 + x) * 64 + y) * 64 + z`: the lead byte
  carries `h`, the continuation bytes are `0x80 + x`, `0x80 + y`, `0x80 + z`.  After `enc_two/three/four`
  every arithmetic side condition is linear in the digits.
-/
import DiplomatModel.Utf8
namespace DiplomatModel.Utf8

theorem exists_digit (c : Nat) : ∃ a x, x < 64 ∧ c = a * 64 + x :=
  ⟨c / 64, c % 64, Nat.mod_lt _ (by decide), (Nat.div_add_mod' c 64).symm⟩

theorem digit_div_mod (a x : Nat) (hx : x < 64) : (a * 64 + x) / 64 = a ∧ (a * 64 + x) % 64 = x :=
  ⟨by rw [Nat.add_comm, Nat.add_mul_div_right _ _ (by decide), Nat.div_eq_of_lt hx, Nat.zero_add],
   by rw [Nat.add_comm, Nat.add_mul_mod_self_right, Nat.mod_eq_of_lt hx]⟩

/-! ### `enc` of a code point given by its digits, under the tests `enc` itself makes -/

theorem enc_two {h x : Nat} (hx : x < 64) (lo : ¬ h * 64 + x < 0x80) (hi : h * 64 + x < 0x800) :
    enc (h * 64 + x) = [0xC0 + h, 0x80 + x] := by
  rw [enc, if_neg lo, if_pos hi]
  simp only [digit_div_mod, hx]

theorem enc_three {h x y : Nat} (hx : x < 64) (hy : y < 64) (lo : ¬ (h * 64 + x) * 64 + y < 0x800)
    (hi : (h * 64 + x) * 64 + y < 0x10000) :
    enc ((h * 64 + x) * 64 + y) = [0xE0 + h, 0x80 + x, 0x80 + y] := by
  rw [enc, if_neg fun hlt => lo (Nat.lt_trans hlt (by decide)), if_neg lo, if_pos hi, show 4096 = 64 * 64 from rfl]
  simp only [← Nat.div_div_eq_div_mul, digit_div_mod, hx, hy]

theorem enc_four {h x y z : Nat} (hx : x < 64) (hy : y < 64) (hz : z < 64)
    (lo : ¬ ((h * 64 + x) * 64 + y) * 64 + z < 0x10000) :
    enc (((h * 64 + x) * 64 + y) * 64 + z) = [0xF0 + h, 0x80 + x, 0x80 + y, 0x80 + z] := by
  rw [enc, if_neg fun hlt => lo (Nat.lt_trans hlt (by decide)), if_neg fun hlt => lo (Nat.lt_trans hlt (by decide)), if_neg lo,
    show 262144 = 64 * 64 * 64 from rfl, show 4096 = 64 * 64 from rfl]
  simp only [← Nat.div_div_eq_div_mul, digit_div_mod, hx, hy, hz]

/-- the continuation bytes are bytes by their form, the lead byte by the range of its class: the leading base-64
    digit of `c` is below 32, 16 or 8 there -/
theorem enc_lt_256 {c : Nat} (hc : c < 0x110000) : ∀ b ∈ enc c, b < 256 := by
  have m (a : Nat) : 0x80 + a % 64 < 256 := by omega
  have l {a d k : Nat} (h : c < d * k) (hk : a + k ≤ 256) : a + c / d < 256 :=
    Nat.lt_of_lt_of_le (Nat.add_lt_add_left (Nat.div_lt_of_lt_mul h) a) hk
  fun_cases enc c
  all_goals simp only [List.forall_mem_cons, List.not_mem_nil, false_imp_iff, implies_true, and_true, m]
  case case1 h => exact Nat.lt_trans h (by decide)
  case case2 _ h => exact l (d := 64) (k := 32) h (by decide)
  case case3 _ _ h => exact l (d := 4096) (k := 16) h (by decide)
  case case4 => exact l (d := 262144) (k := 8) (Nat.lt_trans hc (by decide)) (by decide)

theorem cont_iff {b : Nat} : cont b = true ↔ ∃ x, x < 64 ∧ b = 0x80 + x := by
  simp only [cont, Bool.and_eq_true, decide_eq_true_eq]
  exact ⟨fun h => ⟨b - 0x80, by omega⟩, by rintro ⟨x, hx, rfl⟩; omega⟩

/-- The test on the second byte of a three- or four-byte sequence: a continuation byte, from `lo` on after
    the smallest lead (`p`: no overlong form) and up to `hi` after the lead that `q` singles out (no surrogate,
    nothing above U+10FFFF). -/
theorem second_iff {p q : Prop} [Decidable p] [Decidable q] {lo hi b : Nat} (hlo : 0x80 ≤ lo) (hhi : hi ≤ 0xBF) :
    (if p then decide (lo ≤ b ∧ b ≤ 0xBF) else if q then decide (0x80 ≤ b ∧ b ≤ hi) else cont b) = true
      ↔ cont b = true ∧ (p → lo ≤ b) ∧ (¬ p → q → b ≤ hi) := by
  unfold cont; grind

theorem valid_lead1 {b0 : Nat} (h : b0 < 0x80) (r : List Nat) : validUtf8 (b0 :: r) = validUtf8 r := by
  conv => lhs; unfold validUtf8
  exact if_pos h

theorem valid_lead2 {b0 : Nat} (lo : 0xC2 ≤ b0) (hi : b0 ≤ 0xDF) (b1 : Nat) (r : List Nat) :
    validUtf8 (b0 :: b1 :: r) = (cont b1 && validUtf8 r) := by
  conv => lhs; unfold validUtf8
  rw [if_neg (by omega), if_pos ⟨lo, hi⟩]

theorem valid_lead3 {b0 : Nat} (lo : 0xE0 ≤ b0) (hi : b0 ≤ 0xEF) (b1 b2 : Nat) (r : List Nat) :
    validUtf8 (b0 :: b1 :: b2 :: r) =
      ((if b0 = 0xE0 then decide (0xA0 ≤ b1 ∧ b1 ≤ 0xBF) else if b0 = 0xED then decide (0x80 ≤ b1 ∧ b1 ≤ 0x9F)
        else cont b1) && cont b2 && validUtf8 r) := by
  conv => lhs; unfold validUtf8
  rw [if_neg (by omega), if_neg (by omega), if_pos ⟨lo, hi⟩]

theorem valid_lead4 {b0 : Nat} (lo : 0xF0 ≤ b0) (hi : b0 ≤ 0xF4) (b1 b2 b3 : Nat) (r : List Nat) :
    validUtf8 (b0 :: b1 :: b2 :: b3 :: r) =
      ((if b0 = 0xF0 then decide (0x90 ≤ b1 ∧ b1 ≤ 0xBF) else if b0 = 0xF4 then decide (0x80 ≤ b1 ∧ b1 ≤ 0x8F)
        else cont b1) && cont b2 && cont b3 && validUtf8 r) := by
  conv => lhs; unfold validUtf8
  rw [if_neg (by omega), if_neg (by omega), if_neg (by omega), if_pos ⟨lo, hi⟩]

theorem valid_enc_append (c : Nat) (hc : isScalar c) (rest : List Nat) :
    validUtf8 (enc c ++ rest) = validUtf8 rest := by
  unfold isScalar at hc
  by_cases h1 : c < 0x80
  · rw [enc, if_pos h1]; exact valid_lead1 h1 rest
  obtain ⟨a, z, hz, rfl⟩ := exists_digit c
  by_cases h2 : a * 64 + z < 0x800
  · have d : 0xC2 ≤ 0xC0 + a ∧ 0xC0 + a ≤ 0xDF := by omega
    rw [enc_two hz h1 h2]
    show validUtf8 (_ :: _ :: rest) = _
    rw [valid_lead2 d.1 d.2, cont_iff.mpr ⟨z, hz, rfl⟩, Bool.true_and]
  obtain ⟨a, y, hy, rfl⟩ := exists_digit a
  by_cases h3 : (a * 64 + y) * 64 + z < 0x10000
  · -- what the automaton asks of the lead byte and of the second byte after `0xE0` and `0xED`
    have d : 0xE0 + a ≤ 0xEF ∧ (0xE0 + a = 0xE0 → 0xA0 ≤ 0x80 + y) ∧ (0xE0 + a = 0xED → 0x80 + y ≤ 0x9F) := by omega
    rw [enc_three hy hz h2 h3]
    show validUtf8 (_ :: _ :: _ :: rest) = _
    rw [valid_lead3 (Nat.le_add_right ..) d.1,
      (second_iff (by decide) (by decide)).mpr ⟨cont_iff.mpr ⟨y, hy, rfl⟩, d.2.1, fun _ => d.2.2⟩,
      cont_iff.mpr ⟨z, hz, rfl⟩, Bool.true_and, Bool.true_and]
  obtain ⟨a, x, hx, rfl⟩ := exists_digit a
  have d : 0xF0 + a ≤ 0xF4 ∧ (0xF0 + a = 0xF0 → 0x90 ≤ 0x80 + x) ∧ (0xF0 + a = 0xF4 → 0x80 + x ≤ 0x8F) := by omega
  rw [enc_four hx hy hz h3]
  show validUtf8 (_ :: _ :: _ :: _ :: rest) = _
  rw [valid_lead4 (Nat.le_add_right ..) d.1,
    (second_iff (by decide) (by decide)).mpr ⟨cont_iff.mpr ⟨x, hx, rfl⟩, d.2.1, fun _ => d.2.2⟩,
    cont_iff.mpr ⟨y, hy, rfl⟩, cont_iff.mpr ⟨z, hz, rfl⟩, Bool.true_and, Bool.true_and, Bool.true_and]

theorem isUtf8_cons (c : Nat) (hc : isScalar c) (bs : List Nat) (h : IsUtf8 bs) :
    IsUtf8 (enc c ++ bs) := by
  obtain ⟨cs, hs, rfl⟩ := h
  exact ⟨c :: cs, List.forall_mem_cons.mpr ⟨hc, hs⟩, rfl⟩

theorem complete (bs : List Nat) (h : IsUtf8 bs) : validUtf8 bs = true := by
  obtain ⟨cs, hs, rfl⟩ := h
  induction cs with
  | nil => rfl
  | cons c cs ih =>
    have hs := List.forall_mem_cons.mp hs
    rw [List.flatMap_cons, valid_enc_append c hs.1]
    exact ih hs.2

theorem sound (bs : List Nat) : validUtf8 bs = true → IsUtf8 bs := by
  -- along the automaton's own branches: what a round accepts is `enc c` for a scalar `c`, and the automaton's call on
  -- what follows is the induction hypothesis; the branches that answer `false` go at once
  fun_induction validUtf8 bs <;> intro hv
  all_goals try contradiction
  next => exact ⟨[], nofun, rfl⟩  -- the empty string
  next b0 rest h1 ih =>  -- one byte
    have := isUtf8_cons b0 (by unfold isScalar; omega) rest (ih hv)
    rw [enc, if_pos h1] at this
    exact this
  next b0 _ h2 b1 r ih =>  -- a lead of two
    simp only [Bool.and_eq_true, cont_iff] at hv
    obtain ⟨⟨x, hx, rfl⟩, hr⟩ := hv
    obtain ⟨h, rfl⟩ := Nat.exists_eq_add_of_le (show 0xC0 ≤ b0 by omega)
    have d : ¬ h * 64 + x < 0x80 ∧ h * 64 + x < 0x800 := by omega
    have := isUtf8_cons (h * 64 + x) (by unfold isScalar; omega) r (ih hr)
    rwa [enc_two hx d.1 d.2] at this
  next b0 _ _ h3 b1 b2 r ih =>  -- a lead of three
    simp only [Bool.and_eq_true, second_iff (show 0x80 ≤ 0xA0 by decide) (show 0x9F ≤ 0xBF by decide),
      cont_iff] at hv
    obtain ⟨⟨⟨⟨x, hx, rfl⟩, lo, hi⟩, y, hy, rfl⟩, hr⟩ := hv
    obtain ⟨h, rfl⟩ := Nat.exists_eq_add_of_le h3.1
    -- in digits: the lead is `0xE0 + h`; `32 = 0x800 / 64` (no overlong form), `h = 13` is the lead `0xED` (no surrogate)
    have d : h < 16 ∧ 32 ≤ h * 64 + x ∧ ¬ (h = 13 ∧ 32 ≤ x) := by omega
    have e : ¬ (h * 64 + x) * 64 + y < 0x800 ∧ (h * 64 + x) * 64 + y < 0x10000 := by omega
    have := isUtf8_cons ((h * 64 + x) * 64 + y) (by unfold isScalar; omega) r (ih hr)
    rwa [enc_three hx hy e.1 e.2] at this
  next b0 _ _ _ h4 b1 b2 b3 r ih =>  -- a lead of four
    simp only [Bool.and_eq_true, second_iff (show 0x80 ≤ 0x90 by decide) (show 0x8F ≤ 0xBF by decide),
      cont_iff] at hv
    obtain ⟨⟨⟨⟨⟨x, hx, rfl⟩, lo, hi⟩, y, hy, rfl⟩, z, hz, rfl⟩, hr⟩ := hv
    obtain ⟨h, rfl⟩ := Nat.exists_eq_add_of_le h4.1
    -- `16 = 0x10000 / 4096` (no overlong form), `272 = 0x110000 / 4096` (nothing above U+10FFFF)
    have d : 16 ≤ h * 64 + x ∧ h * 64 + x < 272 := by omega
    have := isUtf8_cons (((h * 64 + x) * 64 + y) * 64 + z) (by unfold isScalar; omega) r (ih hr)
    rwa [enc_four hx hy hz (by omega)] at this

end DiplomatModel.Utf8
