import DiplomatModel.CppStr
import DiplomatModel.Lemmas.Write
namespace DiplomatModel.CppStr
open DiplomatModel.Write

theorem resize_self (l : List Nat) : resize l l.length = l := by simp [resize]

theorem resize_grow (l : List Nat) (n : Nat) (h : l.length ≤ n) : resize l n = l ++ List.replicate (n - l.length) 0 := by
  simp [resize, List.take_of_length_le h]

theorem resize_length (l : List Nat) (n : Nat) : (resize l n).length = n := by
  rw [resize, List.length_append, List.length_take, List.length_replicate, Nat.add_comm]
  exact Nat.sub_add_min_cancel n l.length

/-- the invariant of the adaptor: the window is exactly the string, nothing was written outside it,
    and the string is the initial contents followed by everything written -/
structure Inv (init : List Nat) (done : List Nat) (s : S) : Prop where
  lenCap : s.len = s.cap
  capStr : s.cap = s.str.length
  noOob : s.oob = false
  content : s.str = init ++ done

theorem start_inv (init : List Nat) : Inv init [] (start init) :=
  ⟨rfl, rfl, rfl, by simp [start]⟩

theorem copy_into_fresh (l c : List Nat) :
    copyAt (l ++ List.replicate c.length 0) l.length c = l ++ c := by
  rw [copyAt_spec _ _ _ (by simp)]
  simp

theorem step_write (s : S) (c : List Nat) (h1 : s.len = s.cap) (h2 : s.cap = s.str.length) :
    step s (.write c) = { str := s.str ++ c, len := s.len + c.length, cap := s.len + c.length, oob := s.oob } := by
  obtain ⟨str, len, cap, oob⟩ := s
  simp only at h1 h2
  subst h1 h2
  cases c with
  | nil => simp [step, copyAt]  -- nothing to copy, and no growth asked for
  | cons b bs =>  -- `grow` is called: it appends as many NULs as the chunk is long, and the chunk goes over them
    have hgt : str.length + (b :: bs).length > str.length := Nat.lt_add_of_pos_right (Nat.succ_pos _)
    simp only [step, if_pos hgt, grow, resize_grow str _ (Nat.le_add_right ..), Nat.add_sub_cancel_left, copy_into_fresh,
      List.length_append, List.length_replicate, Nat.lt_irrefl, gt_iff_lt, decide_false, Bool.or_false]

/-- under the invariant the string is as long as the window says: a flush changes nothing -/
theorem step_flush (s : S) (h1 : s.len = s.cap) (h2 : s.cap = s.str.length) : step s .flush = s := by
  have hr : resize s.str s.len = s.str := by rw [h1, h2]; exact resize_self _
  rw [step, hr]

theorem step_inv (init done : List Nat) (s : S) (op : Op) (h : Inv init done s) :
    Inv init (done ++ written [op]) (step s op) := by
  obtain ⟨h1, h2, h3, h4⟩ := h
  cases op with
  | flush => rw [step_flush s h1 h2]; exact ⟨h1, h2, h3, by simpa [written] using h4⟩
  | write c =>
    rw [step_write s c h1 h2]
    exact ⟨rfl, by simp [← h2, ← h1], h3, by simp [written, h4]⟩

theorem written_append (a b : List Op) : written (a ++ b) = written a ++ written b := by
  induction a with
  | nil => rfl
  | cons o os ih => cases o <;> simp [written, ih]

theorem run_inv (init : List Nat) (ops : List Op) : Inv init (written ops) (run init ops) := by
  unfold run
  suffices h : ∀ (s : S) (done : List Nat), Inv init done s → Inv init (done ++ written ops) (ops.foldl step s) by
    simpa using h (start init) [] (start_inv init)
  induction ops with
  | nil => intro s done h; simpa [written] using h
  | cons o os ih =>
    intro s done h
    have := ih (step s o) (done ++ written [o]) (step_inv init done s o h)
    rwa [List.append_assoc, ← written_append [o] os] at this

end DiplomatModel.CppStr
