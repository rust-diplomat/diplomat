/-
  Writes to the byte memory are local, and the field-wise write / read of a struct laid out by the repr(C)
  algorithm (`JsLayout.fieldInfoOf`, offsets `offsetsFrom`) round-trips: because the offsets are ordered and do not
  overlap, what is written field by field is what is read back field by field.
-/
import DiplomatModel.Memory
import DiplomatModel.Lemmas.JsLayout
namespace DiplomatModel.Memory
open DiplomatModel.JsLayout

theorem writeAt_outside {m : Mem} {off : Nat} {bs : List Nat} (a : Nat) (h : a < off ∨ off + bs.length ≤ a) :
    writeAt m off bs a = m a := by
  induction bs generalizing m off with
  | nil => rfl
  | cons b bs ih =>
    rw [List.length_cons] at h
    exact (ih (by omega)).trans (if_neg (by omega))

/-- a one-byte store, as the `is_ok` flag of a result is -/
theorem writeAt_one (m : Mem) (off b a : Nat) : writeAt m off [b] a = if a = off then b else m a := rfl

theorem readAt_eq_map (m : Mem) (off n : Nat) : readAt m off n = (List.range' off n).map m := by
  induction n generalizing off with
  | zero => rfl
  | succ n ih => rw [readAt, ih, List.range'_succ, List.map_cons]

theorem readAt_congr (m m' : Mem) (off n : Nat) (h : ∀ a, off ≤ a → a < off + n → m a = m' a) :
    readAt m off n = readAt m' off n := by
  rw [readAt_eq_map, readAt_eq_map]
  exact List.map_congr_left fun a ha => h a (List.mem_range'_1.mp ha).1 (List.mem_range'_1.mp ha).2

theorem readAt_writeAt_same (m : Mem) (off : Nat) (bs : List Nat) :
    readAt (writeAt m off bs) off bs.length = bs := by
  induction bs generalizing m off with
  | nil => rfl
  | cons b bs ih =>
    -- the first byte lies below the store of the others
    exact List.cons_eq_cons.mpr ⟨(writeAt_outside off (.inl (Nat.lt_succ_self off))).trans (if_pos rfl), ih _ _⟩

/-- the fields are laid out in order from `next` on without overlapping -/
def Ordered : Nat → List (Nat × List Nat) → Prop
  | _, [] => True
  | next, (off, bs) :: fs => next ≤ off ∧ Ordered (off + bs.length) fs

theorem writeFields_outside {m : Mem} {fs : List (Nat × List Nat)} {next : Nat} (h : Ordered next fs)
    {a : Nat} (ha : a < next) : writeFields m fs a = m a := by
  induction fs generalizing m next with
  | nil => rfl
  | cons f fs ih =>
    obtain ⟨off, bs⟩ := f
    have hlt : a < off := Nat.lt_of_lt_of_le ha h.1
    rw [writeFields, ih h.2 (Nat.lt_add_right _ hlt), writeAt_outside a (Or.inl hlt)]

theorem read_after_writeFields (m : Mem) (fs : List (Nat × List Nat)) (next : Nat) (h : Ordered next fs) :
    ∀ f ∈ fs, readAt (writeFields m fs) f.1 f.2.length = f.2 := by
  induction fs generalizing m next with
  | nil => nofun
  | cons g fs ih =>
    obtain ⟨off, bs⟩ := g
    -- the fields behind this one are written above it
    exact List.forall_mem_cons.mpr
      ⟨(readAt_congr _ _ off bs.length fun a _ ha => writeFields_outside h.2 ha).trans (readAt_writeAt_same m off bs),
        ih _ _ h.2⟩

/-- the running offsets, with field values of the fields' sizes, are an ordered placement (whatever the
    alignments: padding only ever moves a field up) -/
theorem offsetsFrom_ordered (fs : List (Nat × Nat × SC)) (vals : List (List Nat)) (next : Nat)
    (hs : ∀ i (h1 : i < fs.length) (h2 : i < vals.length), (vals[i]'h2).length = (fs[i]'h1).1) :
    Ordered next ((offsetsFrom next fs).zip vals) := by
  induction fs generalizing vals next with
  | nil => trivial
  | cons f fs ih =>
    obtain ⟨sz, al, sc⟩ := f
    cases vals with
    | nil => trivial
    | cons v vals =>
      have hv : v.length = sz := hs 0 (Nat.zero_lt_succ _) (Nat.zero_lt_succ _)
      refine ⟨Nat.le_add_right _ _, ?_⟩
      rw [hv]
      exact ih vals _ fun i h1 h2 => hs (i + 1) (Nat.succ_lt_succ h1) (Nat.succ_lt_succ h2)

end DiplomatModel.Memory
