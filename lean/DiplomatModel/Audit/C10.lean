import DiplomatModel.Props.C10
#print axioms DiplomatModel.Props.C10.optional_pointer_is_pointer
#print axioms DiplomatModel.Props.C10.optional_pointer_return
#print axioms DiplomatModel.Props.C10.option_is_result
#print axioms DiplomatModel.Props.C10.unit_arm_no_payload
#print axioms DiplomatModel.Props.C10.option_param_is_dipOption
#print axioms DiplomatModel.Props.C10.cTy_spelling
#print axioms DiplomatModel.Props.C10.isZst_spelling
#print axioms DiplomatModel.Props.C10.isUnit_spelling
#print axioms DiplomatModel.Props.C10.cArm_spelling
#print axioms DiplomatModel.Props.C10.cRetTy_spelling
#print axioms DiplomatModel.Props.C10.spellings_identical
#print axioms DiplomatModel.Props.C10.spellings_identical_ret
#print axioms DiplomatModel.Props.C10.spellings_same_wire
#print axioms DiplomatModel.Props.C10.option_spelling_gate
#print axioms DiplomatModel.Props.C10.result_encoding
#print axioms DiplomatModel.Props.C10.option_encoding
#print axioms DiplomatModel.Props.C10.spellings_same_behaviour
#print axioms DiplomatModel.Props.C10.option_wire_spelling_invariant
#print axioms DiplomatModel.Props.C10.option_wire_is_result
#print axioms DiplomatModel.Props.C10.result_bytes_roundtrip
#print axioms DiplomatModel.Props.C10.unit_arms_take_no_bytes
#print axioms DiplomatModel.Props.C10.js_result_slot_is_wire_result
#print axioms DiplomatModel.Props.C10.js_option_slot_is_wire_result
