import DiplomatModel.Props.C02
#print axioms DiplomatModel.Props.C02.guard_iff
#print axioms DiplomatModel.Props.C02.no_guard_elsewhere
#print axioms DiplomatModel.Props.C02.wraps_iff
#print axioms DiplomatModel.Props.C02.invalid_never_reaches_rust
#print axioms DiplomatModel.Props.C02.valid_calls_once
#print axioms DiplomatModel.Props.C02.guard_is_exactly_utf8
#print axioms DiplomatModel.Props.C02.optional_roundtrip
#print axioms DiplomatModel.Props.C02.optional_pointer_roundtrip
#print axioms DiplomatModel.Props.C02.option_unit_return
#print axioms DiplomatModel.Props.C02.guards_agree
#print axioms DiplomatModel.Props.C02.cpp_total
#print axioms DiplomatModel.Props.C02.cpp_param_total_partial
#print axioms DiplomatModel.Props.C02.cpp_args_match_c_params
#print axioms DiplomatModel.Props.C02.fallible_return_shape
#print axioms DiplomatModel.Props.C02.nullable_return_shape
