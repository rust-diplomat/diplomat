import DiplomatModel.Props.C09
#print axioms DiplomatModel.Props.C09.escaped_not_keyword_of_closed
#print axioms DiplomatModel.Props.C09.tables_checked
#print axioms DiplomatModel.Props.C09.tables_closed
#print axioms DiplomatModel.Props.C09.escaped_never_keyword
#print axioms DiplomatModel.Props.C09.tables_cover_standards
#print axioms DiplomatModel.Props.C09.escape_injective_partial
#print axioms DiplomatModel.Props.C09.include_path_resolves
