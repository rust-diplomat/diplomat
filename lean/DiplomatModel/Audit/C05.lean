import DiplomatModel.Props.C05
#print axioms DiplomatModel.Props.C05.out_gate_iff
#print axioms DiplomatModel.Props.C05.staticErr_nil
#print axioms DiplomatModel.Props.C05.in_gate_iff
#print axioms DiplomatModel.Props.C05.self_gate_iff
#print axioms DiplomatModel.Props.C05.unit_not_outOk
#print axioms DiplomatModel.Props.C05.arm_gate_iff
#print axioms DiplomatModel.Props.C05.ret_gate_iff
#print axioms DiplomatModel.Props.C05.module_gate_iff
#print axioms DiplomatModel.Props.C05.method_gate
#print axioms DiplomatModel.Props.C05.elisionErrs_nil_iff
#print axioms DiplomatModel.Props.C05.no_elision_ok
#print axioms DiplomatModel.Props.C05.elided_return_rejected
#print axioms DiplomatModel.Props.C05.error_context
