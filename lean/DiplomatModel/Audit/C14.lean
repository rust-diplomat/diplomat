import DiplomatModel.Props.C14
#print axioms DiplomatModel.Props.C14.module_order_independent
#print axioms DiplomatModel.Props.C14.file_order_independent
#print axioms DiplomatModel.Props.C14.fileOf_local
#print axioms DiplomatModel.Props.C14.unrelated_type_local
#print axioms DiplomatModel.Props.C14.non_module_items_ignored
#print axioms DiplomatModel.Props.C14.plain_module_declares_nothing
#print axioms DiplomatModel.Props.C14.hash_sites_match_baseline
