import DiplomatModel.Props.C01
#print axioms DiplomatModel.Props.C01.forall_prim
#print axioms DiplomatModel.Props.C01.prim_abi_agree
#print axioms DiplomatModel.Props.C01.derived_instance_agree
#print axioms DiplomatModel.Props.C01.runtime_types_agree
#print axioms DiplomatModel.Props.C01.cPrim_some
#print axioms DiplomatModel.Props.C01.derived_some
#print axioms DiplomatModel.Props.C01.instanceTy_str
#print axioms DiplomatModel.Props.C01.instanceTy_strs
#print axioms DiplomatModel.Props.C01.cAbi_of_simple
#print axioms DiplomatModel.Props.C01.rustPrimAbi_ne_nil
#print axioms DiplomatModel.Props.C01.isOpaque_named
#print axioms DiplomatModel.Props.C01.isZst_named
#print axioms DiplomatModel.Props.C01.cTy_abi
#print axioms DiplomatModel.Props.C01.ffiSafe_strRef
#print axioms DiplomatModel.Props.C01.ffiSafe_strSlice
#print axioms DiplomatModel.Props.C01.ffiSafe_primSlice
#print axioms DiplomatModel.Props.C01.rust_abi
#print axioms DiplomatModel.Props.C01.abiOf_ne_nil
#print axioms DiplomatModel.Props.C01.inOk_cTy
#print axioms DiplomatModel.Props.C01.outOk_cTy
#print axioms DiplomatModel.Props.C01.outOk_storage
#print axioms DiplomatModel.Props.C01.outOk_mono
#print axioms DiplomatModel.Props.C01.paramTy_abi
#print axioms DiplomatModel.Props.C01.paramTy_of_ffiSafe
#print axioms DiplomatModel.Props.C01.retTy_plain
#print axioms DiplomatModel.Props.C01.in_agree
#print axioms DiplomatModel.Props.C01.out_agree
#print axioms DiplomatModel.Props.C01.param_agree_partial
#print axioms DiplomatModel.Props.C01.self_agree
#print axioms DiplomatModel.Props.C01.field_agree
#print axioms DiplomatModel.Props.C01.arm_agree
#print axioms DiplomatModel.Props.C01.ret_agree
#print axioms DiplomatModel.Props.C01.callback_arg_agree
#print axioms DiplomatModel.Props.C01.callback_sig_agree
#print axioms DiplomatModel.Props.C01.param_pos_agree
#print axioms DiplomatModel.Props.C01.method_agree
#print axioms DiplomatModel.Props.C01.param_agree_gate
#print axioms DiplomatModel.Props.C01.ret_agree_gate
#print axioms DiplomatModel.Props.C01.value_roundtrip
#print axioms DiplomatModel.Props.C01.value_store_is_local
#print axioms DiplomatModel.Props.C01.result_arm_roundtrip
#print axioms DiplomatModel.Props.C01.bridge_type_roundtrip
