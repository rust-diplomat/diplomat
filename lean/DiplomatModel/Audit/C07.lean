import DiplomatModel.Props.C07
#print axioms DiplomatModel.Props.C07.dart_prim_agree
#print axioms DiplomatModel.Props.C07.dart_prim_matches_c
#print axioms DiplomatModel.Props.C07.kt_prim_agree_partial
#print axioms DiplomatModel.Props.C07.kt_prim_matches_c_partial
#print axioms DiplomatModel.Props.C07.kt_prim_mismatch_rows
#print axioms DiplomatModel.Props.C07.dartPrim_abi
#print axioms DiplomatModel.Props.C07.sameWire_refl
#print axioms DiplomatModel.Props.C07.dartParamTy_abi
#print axioms DiplomatModel.Props.C07.dart_param_agree_partial
#print axioms DiplomatModel.Props.C07.ktParamTy_abi
#print axioms DiplomatModel.Props.C07.kt_param_agree_partial
#print axioms DiplomatModel.Props.C07.dartTy_abi
#print axioms DiplomatModel.Props.C07.dart_ty_agree
#print axioms DiplomatModel.Props.C07.kt_native_arity
#print axioms DiplomatModel.Props.C07.kt_native_ret_prim
