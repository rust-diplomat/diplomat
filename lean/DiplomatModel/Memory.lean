/-
  A byte memory: what both the wire codec (`Wire.lean`, C01 / C10) and the JS struct writer (C08,
  `_writeToArrayBuffer` / `_fromFFI`) store to and load from.
-/
namespace DiplomatModel.Memory

abbrev Mem := Nat → Nat

def writeAt (m : Mem) (off : Nat) : List Nat → Mem
  | [] => m
  | b :: bs => writeAt (fun a => if a = off then b else m a) (off + 1) bs

def readAt (m : Mem) (off : Nat) : Nat → List Nat
  | 0 => []
  | n + 1 => m off :: readAt m (off + 1) n

/-- write every field's bytes at its offset, in order -/
def writeFields (m : Mem) : List (Nat × List Nat) → Mem
  | [] => m
  | (off, bs) :: fs => writeFields (writeAt m off bs) fs

end DiplomatModel.Memory
