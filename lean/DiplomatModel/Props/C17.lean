/-
  C17 — Configuration sources combine with the documented precedence.

  `pipeline file cli attrs target` is the model of main.rs + gen (tied to the real functions by
  correspondence); `effectiveShared` / `lastOf` is the documented rule written without reference to it.
-/
import DiplomatModel.Lemmas.Config
namespace DiplomatModel.Props.C17
open DiplomatModel.Config

/-- the documented rule for a shared setting, for any target: scoped keys exist for the four
    languages `Config::set` knows; for every other target only the unscoped key counts -/
def effective (file cli attrs : List (Key × Val)) (t : Lang) (n : Name) : Option Val :=
  if t.scoped then effectiveShared file cli attrs t n else lastOf (file ++ cli ++ attrs) ⟨none, n⟩

/-- **Precedence.** Whatever the three sources contain (any number of entries, any keys, any order),
    if the tool does not reject the configuration, the `lib_name` a target sees is the latest
    target-scoped entry if one exists, else the latest unscoped entry — with sources ordered
    file < command line < attribute. -/
theorem precedence_lib_name (file cli attrs : List (Key × Val)) (t : Lang) (c : Config)
    (h : pipeline file cli attrs t = some c) :
    c.libName.map Val.str = effective file cli attrs t .libName :=
  -- the left side is `readKey c ⟨none, .libName⟩` and `effective` is the right side of `pipeline_readKey`, both by unfolding
  pipeline_readKey h .libName rfl

theorem precedence_unsafe_refs (file cli attrs : List (Key × Val)) (t : Lang) (c : Config)
    (h : pipeline file cli attrs t = some c) :
    c.unsafeRefs.map Val.bool = effective file cli attrs t .unsafeRefs :=
  pipeline_readKey h .unsafeRefs rfl

/-- **Source order.** For one key: an attribute entry beats any command-line entry, which beats any
    file entry; within one source the later entry wins. -/
theorem source_order (file cli attrs : List (Key × Val)) (k : Key) :
    lastOf (file ++ cli ++ attrs) k = (lastOf attrs k).or ((lastOf cli k).or (lastOf file k)) := by
  rw [lastOf_append, lastOf_append]

theorem later_same_source_wins (es : List (Key × Val)) (k : Key) (v : Val) :
    lastOf (es ++ [(k, v)]) k = some v := by
  rw [lastOf_append]; simp [lastOf]

/-- `lastOf` is literally "the last entry whose key is `k`" -/
theorem lastOf_is_last (es : List (Key × Val)) (k : Key) :
    lastOf es k = ((es.filter fun e => e.1 = k).getLast?).map (·.2) :=
  lastOf_eq es k

/-- **Scoping**, for all three sources at once: what target `t` sees of setting `n` is decided by the entries
    under `t.n` and under `n`; the others can be dropped. -/
theorem effective_filter (p : Key → Bool) {t : Lang} {n : Name} (hs : p ⟨some t, n⟩ = true) (hn : p ⟨none, n⟩ = true)
    (file cli attrs : List (Key × Val)) :
    effective (file.filter fun e => p e.1) (cli.filter fun e => p e.1) (attrs.filter fun e => p e.1) t n
      = effective file cli attrs t n := by
  simp only [effective, effectiveShared, ← List.filter_append, lastOf_filter p hs, lastOf_filter p hn]

/-- **Scoping.** An entry scoped to another language never changes what a target sees. -/
theorem scoped_only_own_language (a b : List (Key × Val)) (l t : Lang) (m n : Name) (v : Val) (hl : l ≠ t) :
    effective (a ++ [(⟨some l, m⟩, v)] ++ b) [] [] t n = effective (a ++ b) [] [] t n := by
  -- filter the key `l.m` out of both sides (`effective_filter`): that leaves the same list twice
  have drop := effective_filter (fun k => k != ⟨some l, m⟩) (t := t) (n := n) (by simp [Ne.symm hl]) (by simp)
  rw [← drop (a ++ _ ++ b), ← drop (a ++ b)]
  simp [List.filter_append]

/-- **kebab-case ≡ snake_case** in config.toml, for top-level keys, table names and table keys. -/
theorem kebab_eq_snake (es : List FileEntry) : readFile (es.map FileEntry.kebab) = readFile es := by
  have hc (cs : List Char) : snakeChars (kebabChars cs) = snakeChars cs := by
    simp only [snakeChars, kebabChars, List.map_map]
    refine List.map_congr_left fun c _ => ?_
    -- `_` goes to `-` and back; `kebabChars` leaves every other character alone
    by_cases h : c = '_' <;> simp [h]
  simp only [readFile, List.map_map]
  apply List.map_congr_left
  intro e _
  simp only [Function.comp, FileEntry.kebab, FileEntry.fullKey]
  cases e.table <;> simp [hc]

/-- **A `--config` value may itself contain `=`**: the argument is split at its *first* `=`; whatever follows —
    a URL with a query, a quoted assignment — is the value. -/
theorem cli_arg_splits_at_first_eq (k v : List Char) (hk : '=' ∉ k) :
    splitFirstEq (k ++ '=' :: v) = some (k, v) := by
  simp [splitFirstEq_append k _ hk, splitFirstEq]

/-- **A stray argument without `=` is skipped and nothing else**: the settings before and after it count as if it
    were not there. -/
theorem stray_cli_arg_skipped (pre post : List (List Char)) (a : List Char) (ha : '=' ∉ a) :
    readCliArgs (pre ++ a :: post) = readCliArgs (pre ++ post) := by
  have hnone : splitFirstEq a = none := by
    simpa [splitFirstEq] using splitFirstEq_append a [] ha
  simp [readCliArgs, List.filterMap_append, readCliArg, hnone]

/-! value parsing and non-vacuity -/
example : valueFromStr "true" = .bool true := by decide
example : valueFromStr "\"MyLibrary\"" = .str "MyLibrary" := by decide
example : valueFromStr "somelib" = .str "somelib" := by decide

def fileEx : List (Key × Val) := [(⟨none, .libName⟩, .str "MyLibrary"), (⟨some .kotlin, .libName⟩, .str "Override")]
def attrEx : List (Key × Val) := [(⟨none, .libName⟩, .str "FromAttr")]
example : (pipeline fileEx [] attrEx .kotlin).map (·.libName) = some (some "Override") := by decide
example : (pipeline fileEx [] attrEx .js).map (·.libName) = some (some "FromAttr") := by decide
example : effective fileEx [] attrEx .kotlin .libName = some (.str "Override") := by decide
example : readCliArg "demo_gen.module_name=https://cdn.example/g.mjs?v=2".toList
    = some ("demo_gen.module_name", .str "https://cdn.example/g.mjs?v=2") := by decide +kernel

end DiplomatModel.Props.C17
