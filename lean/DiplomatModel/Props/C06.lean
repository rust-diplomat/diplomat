/-
  C06 — Every backend calls exactly the symbols the Rust library exports.
-/
import DiplomatModel.Lemmas.Rename
namespace DiplomatModel.Props.C06
open DiplomatModel.Rename DiplomatModel.Cfg

/-- **Pattern semantics.** Applying a pattern to a name inserts the name at the *first* `{0}`
    (everything after it, including further `{0}`s, is kept); a pattern without `{0}` is a pure rename. -/
theorem rename_apply_spec (s n : Str) :
    applyAttr (some (parse s)) n =
      match splitFirst s with
      | some (a, b) => a ++ n ++ b
      | none => s := by
  rw [findSub_splitFirst]
  unfold applyAttr parse
  cases hf : findSub placeholder s with
  | none => simp [Pattern.apply]
  | some i =>
    have hl : (s.take i).length = i := List.length_take_of_le (Nat.le_of_add_right_le (findSub_spec hf).1)
    simp only [Pattern.apply, Option.map_some]
    rw [List.take_left' hl, List.drop_left' hl]

/-- `splitFirst` really splits at an occurrence of `{0}` -/
theorem split_is_occurrence (s a b : Str) (h : splitFirst s = some (a, b)) : s = a ++ placeholder ++ b := by
  rw [findSub_splitFirst] at h
  obtain ⟨i, hf, h⟩ := Option.map_eq_some_iff.mp h
  cases h
  exact (findSub_spec hf).2

/-- **Inheritance.** The pattern in force is the innermost one present: method, else impl, else module for
    methods; type, else module for destructors. Patterns do not compose. -/
theorem rename_inherit_spec (m i me : Option Pattern) :
    extend (extend m i) me = me.or (i.or m) :=
  rfl

theorem method_abi_name (m : Module6) (t : Type6) (i : Impl6) (me : Method6) :
    methodAbi m t i me =
      String.ofList (applyAttr ((pat me.abi).or ((pat i.abi).or (pat m.abi))) (t.name ++ "_" ++ me.name).toList) :=
  rfl

theorem dtor_abi_name (m : Module6) (t : Type6) :
    dtorAbi m t = String.ofList (applyAttr ((pat t.abi).or (pat m.abi)) (t.name ++ "_destroy").toList) :=
  rfl

/-- **Naming scheme** without any `abi_rename`: `Type_method`, `Type_destroy`. -/
theorem abi_name_scheme (m : Module6) (t : Type6) (i : Impl6) (me : Method6)
    (h1 : m.abi = none) (h2 : i.abi = none) (h3 : me.abi = none) (h4 : t.abi = none) :
    methodAbi m t i me = String.ofList (t.name ++ "_" ++ me.name).toList
    ∧ dtorAbi m t = String.ofList (t.name ++ "_destroy").toList := by
  rw [method_abi_name, dtor_abi_name, h1, h2, h3, h4]
  exact ⟨rfl, rfl⟩

/-- **Used ⊆ exported.** Whatever a backend's generated code refers to is a symbol the proc macro exports
    (the macro exports every method and destructor regardless of backend conditions). -/
theorem used_subset_exported (vd : Validator) (m : Module6) (u : List String) (h : usedBy vd m = some u) :
    ∀ s ∈ u, s ∈ exported m :=
  fun _ hs => (usedBy_sublist h).subset hs

/-- A symbol that is exported but not used by a backend belongs to a type or method that backend has
    disabled (contrapositive form: an enabled method's symbol is used). -/
theorem enabled_method_used (vd : Validator) (m : Module6) (lts : List LType) (t : Type6) (lt : LType)
    (i : Impl6) (me : Method6)
    (hl : lower vd (toCfg m) = some lts) (ht : t ∈ m.types) (hf : lts.find? (fun x => x.name == t.name) = some lt)
    (hen : lt.disabled = false) (hi : i ∈ t.impls) (hme : me ∈ i.methods)
    (hkept : lt.methods.any (fun lm => lm.name == me.name) = true) :
    ∃ u, usedBy vd m = some u ∧ methodAbi m t i me ∈ u := by
  unfold usedBy
  simp only [hl]
  refine ⟨_, rfl, List.mem_flatMap.mpr ⟨t, ht, ?_⟩⟩
  simp only [hf, hen, Bool.false_eq_true, if_false]
  -- among `t`'s symbols: not the destructor but a method, of `i`, namely `me`, which the filter keeps
  exact List.mem_append_right _
    (List.mem_flatMap.mpr ⟨i, hi, List.mem_map.mpr ⟨me, List.mem_filter.mpr ⟨hme, hkept⟩, rfl⟩⟩)

/-! non-vacuity -/
example : String.ofList (applyAttr (some (parse "icu4x_{0}_mv1".toList)) "Foo_bar".toList) = "icu4x_Foo_bar_mv1" := by
  decide +kernel
example : String.ofList (applyAttr (some (parse "fixed".toList)) "Foo_bar".toList) = "fixed" := by decide
example : splitFirst "a{0}b{0}".toList = some ("a".toList, "b{0}".toList) := by decide

end DiplomatModel.Props.C06
