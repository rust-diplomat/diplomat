/-
  C14 — output is a deterministic, order-independent, local function of the bridge (PARTIAL: the environment
  and the one-file-per-type structure are modelled; what each backend writes into a file is an abstract
  `render` that sees a type's own entry and what the names it mentions resolve to).

  Proved for item lists and files of any length:
  * order independence inside a bridge module: two item sequences that agree, for every type name, on the
    subsequence of items about that name (its declaration and its impl blocks, in their relative order) give
    the same type map — or both make `from_syn` panic; how the items of different types interleave is irrelevant;
  * the same at the file level for modules;
  * locality: inserting or removing a type that a type `u` does not mention leaves `u`'s entry and everything
    a generator may read for `u` unchanged, hence `u`'s file;
  * items that are not modules, and everything inside non-bridge modules, never reach the environment.
  Determinism is a property of the real code only (the model is a function); it rests on the tie.
-/
import DiplomatModel.Lemmas.EnvOrder
import DiplomatModel.HashBaseline
import DiplomatModel.Generated.HashSites
namespace DiplomatModel.Props.C14
open DiplomatModel.EnvOrder Std

/-- "same bridge module up to interleaving": for every name the items about it are the same, in the same order -/
def SameUpToInterleaving (a b : List Item) : Prop := ∀ n, a.filter (Item.about n) = b.filter (Item.about n)

def SameTopsUpToInterleaving (a b : List Top) : Prop := ∀ n, a.filter (Top.about n) = b.filter (Top.about n)

/-- **Type order inside a bridge module does not matter**, panics included. -/
theorem module_order_independent (a b : List Item) (h : SameUpToInterleaving a b) :
    fromItems a = fromItems b := by
  unfold fromItems
  rw [runItems_eq_foldlM, runItems_eq_foldlM]
  exact stepItem_perKey.foldlM_congr sorted_nil fun n => foldlM_eq_of_filter_eq Item.on_skip (h n) _

/-- **Module order in the file does not matter** (and neither does where non-module items sit). -/
theorem file_order_independent (a b : List Top) (h : SameTopsUpToInterleaving a b) :
    fromFile a = fromFile b := by
  unfold fromFile
  rw [runTops_eq_foldlM, runTops_eq_foldlM]
  exact stepTop_perKey.foldlM_congr sorted_nil fun n => foldlM_eq_of_filter_eq Top.on_skip (h n) _

/-- the file a generator writes for type `u` of module map `m` -/
def fileOf (render : String → Entry → List (String × Option TyDef) → String) (m : TypeMap) (u : String) : Option String :=
  (find u m).map fun e => render u e (resolved m e)

/-- **Locality**, for any set of changed names: if two bridge modules agree on the items about every name outside
    `changed`, then a type outside it that mentions none of them gets the same file. -/
theorem fileOf_local (render : String → Entry → List (String × Option TyDef) → String)
    {a b : List Item} {ma mb : TypeMap} (changed : String → Prop)
    (ha : fromItems a = some ma) (hb : fromItems b = some mb)
    (hsame : ∀ n, ¬ changed n → a.filter (Item.about n) = b.filter (Item.about n))
    {u : String} (hu : ¬ changed u) (hnoref : ∀ e, find u ma = some e → ∀ r ∈ e.d.refs, ¬ changed r) :
    fileOf render ma u = fileOf render mb u := by
  have hfind : ∀ n, ¬ changed n → find n ma = find n mb := by
    intro n hn
    rw [fromItems, runItems_eq_foldlM] at ha hb
    exact stepItem_perKey.find_eq_of_on_eq sorted_nil ha hb (foldlM_eq_of_filter_eq Item.on_skip (hsame n hn) _)
  unfold fileOf
  rw [← hfind u hu]
  cases he : find u ma with
  | none => rfl
  | some e =>
    -- the entry is the same, and so is what each of its references resolves to
    simp only [Option.map_some, resolved]
    congr 2
    exact List.map_congr_left fun r hr => by rw [hfind r (hnoref e he r hr)]

/-- **Locality.** If two bridge modules agree on everything about every name except `t` (so: `t` was added,
    removed or changed), then the file of any other type `u` that does not mention `t` is the same. -/
theorem unrelated_type_local (render : String → Entry → List (String × Option TyDef) → String)
    (a b : List Item) (ma mb : TypeMap) (t u : String)
    (ha : fromItems a = some ma) (hb : fromItems b = some mb)
    (hsame : ∀ n, n ≠ t → a.filter (Item.about n) = b.filter (Item.about n))
    (hu : u ≠ t) (hnoref : ∀ e, find u ma = some e → t ∉ e.d.refs) :
    fileOf render ma u = fileOf render mb u :=
  fileOf_local render (· = t) ha hb hsame hu fun e he _ hr h => hnoref e he (h ▸ hr)

/-- **Code outside modules is never looked at**: dropping every top-level item that is not a module changes nothing. -/
theorem non_module_items_ignored (tops : List Top) :
    fromFile tops = fromFile (tops.filter fun t => match t with | .other => false | _ => true) := by
  apply file_order_independent
  intro n
  rw [List.filter_filter]
  apply List.filter_congr
  intro t _
  cases t <;> simp [Top.about]

/-- **Non-bridge modules declare nothing**: whatever such a module contains, it contributes an empty type map,
    so `allTypes` (and with it every emitted file) does not see it. -/
theorem plain_module_declares_nothing (f : FileMap) (n : String) :
    stepTop f (.plain n) = some (ins n [] f) ∧
    ∀ f' : FileMap, (∀ x ∈ f', x.1 = n → x.2 = []) →
      allTypes f' = allTypes (f'.filter fun x => x.1 != n) := by
  refine ⟨rfl, fun f' hf => ?_⟩
  induction f' with
  | nil => rfl
  | cons hd tl ih =>
    have htl := ih fun x hx => hf x (List.mem_cons_of_mem _ hx)
    simp only [allTypes, List.flatMap_cons, List.filter_cons] at htl ⊢
    by_cases he : hd.1 = n
    · simp [he, hf hd List.mem_cons_self he, htl]
    · simp [he, htl]

/-- **No unreviewed hash-ordered container**: the scan of /repo's current source equals the reviewed list. -/
theorem hash_sites_match_baseline :
    DiplomatModel.Generated.HashSites.scanned =
      DiplomatModel.HashBaseline.baseline.map (fun x => (x.1, x.2.1, x.2.2.1, x.2.2.2.1)) := by rfl

/-! non-vacuity: two interleavings of the same module that really differ, and a module where an impl comes first -/
def ex1 : List Item := [.ty "B" ⟨"opaque", []⟩, .ty "A" ⟨"struct", ["B"]⟩, .impl "A" ["m1"], .impl "B" ["n1"], .impl "A" ["m2"]]
def ex2 : List Item := [.ty "A" ⟨"struct", ["B"]⟩, .impl "A" ["m1"], .impl "A" ["m2"], .other, .ty "B" ⟨"opaque", []⟩, .impl "B" ["n1"]]

example : fromItems ex1 = fromItems ex2 := by decide
example : (fromItems ex1).map (fun m => m.map fun x => (x.1, x.2.methods)) = some [("A", ["m1", "m2"]), ("B", ["n1"])] := by decide
example : fromItems [.impl "A" ["m"], .ty "A" ⟨"opaque", []⟩] = none := by decide
/-- swapping two impl blocks of the *same* type is not covered by the theorem, and indeed changes the result -/
example : fromItems [.ty "A" ⟨"o", []⟩, .impl "A" ["m1"], .impl "A" ["m2"]] ≠
          fromItems [.ty "A" ⟨"o", []⟩, .impl "A" ["m2"], .impl "A" ["m1"]] := by decide

end DiplomatModel.Props.C14
