/-
  C15 — After successful lowering no backend crashes  (PARTIAL: see DESIGN.md).

  What is proved here:
  * the panic-capable constructs found in the source are exactly the reviewed baseline (regenerated table);
  * the recorded reachable sites are in that table (so repairing one forces the record to be updated);
  * invariants of accepted modules that the backends' `unwrap`/`unreachable!` arms rely on
    (corollaries of C05's gate theorems, for types of any depth);
  * modules free of the three recorded shapes are predicted panic-free by the catalogue.
  What only the run-time tie sees: unmarked panics, and whether each of the ~340 sites is unreachable.
-/
import DiplomatModel.Panics
import DiplomatModel.PanicBaseline
import DiplomatModel.Generated.PanicSites
import DiplomatModel.Props.C05
namespace DiplomatModel.Props.C15
open DiplomatModel.Lower DiplomatModel.Panics DiplomatModel.Props.C05

/-- the scan of /repo's current source equals the reviewed baseline -/
theorem sites_match_baseline :
    DiplomatModel.Generated.PanicSites.scanned = DiplomatModel.PanicBaseline.baseline := by rfl

/-- every recorded reachable site still exists in the source -/
theorem known_sites_exist :
    ∀ k ∈ DiplomatModel.PanicBaseline.knownReachable,
      (DiplomatModel.PanicBaseline.baseline.any fun s => s.1 == k.1 && s.2.1 == k.2.1 && s.2.2.1 == k.2.2.1) = true := by
  -- `+kernel`: the elaborator's own evaluation of the string comparisons would cost as much again
  decide +kernel

/-! ### invariants of accepted modules (what `unwrap`/`unreachable!` arms in the backends assume) -/

/-- an accepted input type is never an owned opaque, a `Result`, a `DiplomatWrite`, unit or `Ordering` -/
theorem input_never_box_result_write (env : Env) (sup : Support) (is : Bool) (t : TyName)
    (h : inErrs env sup is t = []) :
    (∀ b, t ≠ .box b) ∧ (∀ a b s, t ≠ .res a b s) ∧ t ≠ .write ∧ t ≠ .unit ∧ t ≠ .ordering := by
  have hk := (in_gate_iff env sup is t).mp h
  refine ⟨?_, ?_, ?_, ?_, ?_⟩ <;> (intros; rintro rfl; cases hk)

/-- an accepted output type is never a callback, a slice of strings, an owned slice or a bare `Result` -/
theorem output_never_callback_strs_owned (env : Env) (sup : Support) (is iro : Bool) (t : TyName)
    (h : outErrs env sup is iro t = []) :
    (∀ ps r, t ≠ .fn ps r) ∧ (∀ e s, t ≠ .strSlice e s) ∧ (∀ e s, t ≠ .strRef none e s)
      ∧ (∀ p s, t ≠ .primSlice none p s) ∧ (∀ a b s, t ≠ .res a b s) := by
  have hk := (out_gate_iff env sup is iro t).mp h
  refine ⟨?_, ?_, ?_, ?_, ?_⟩ <;> (intros; rintro rfl; cases hk)

/-- a pointer in an accepted position always points to an opaque (never to a struct, enum or primitive) -/
theorem pointers_are_opaque (env : Env) (sup : Support) (is iro : Bool) (lt : Lt) (m : Bool) (t : TyName) :
    (inErrs env sup is (.ref lt m t) = [] → isOpaque env t = true)
    ∧ (outErrs env sup is iro (.ref lt m t) = [] → isOpaque env t = true)
    ∧ (outErrs env sup is iro (.box t) = [] → isOpaque env t = true) := by
  refine ⟨fun h => ?_, fun h => ?_, fun h => ?_⟩
  · cases (in_gate_iff env sup is _).mp h with | refOpaque _ _ _ _ ho => exact ho
  · cases (out_gate_iff env sup is iro _).mp h with | refOpaque _ _ _ _ _ ho => exact ho
  · cases (out_gate_iff env sup is iro _).mp h with | boxOpaque _ _ _ ho => exact ho

/-- the payload of an accepted `Option` in an input is a pointer to an opaque, a primitive, a struct/enum
    or a slice — nothing else (this is what the option helpers of js/dart/cpp enumerate) -/
theorem option_payload_kinds (env : Env) (sup : Support) (is : Bool) (t : TyName) (sd : Sd)
    (h : inErrs env sup is (.opt t sd) = []) :
    (∃ lt m r, t = .ref lt m r ∧ isOpaque env r = true) ∨ (∃ p, t = .prim p) ∨ (∃ n, t = .named n)
      ∨ (∃ e s, t = .strSlice e s) ∨ (∃ lt e s, t = .strRef lt e s) ∨ (∃ l p s, t = .primSlice l p s) := by
  cases (in_gate_iff env sup is _).mp h with
  | optRefOpaque _ lt m r ho => exact Or.inl ⟨lt, m, r, rfl, ho⟩
  | optNamed _ n _ _ _ _ _ => exact Or.inr (Or.inr (Or.inl ⟨n, rfl⟩))
  | optPrim _ p _ _ _ => exact Or.inr (Or.inl ⟨p, rfl⟩)
  | optStrs _ e s _ _ => exact Or.inr (Or.inr (Or.inr (Or.inl ⟨e, s, rfl⟩)))
  | optStr _ lt e s _ _ _ => exact Or.inr (Or.inr (Or.inr (Or.inr (Or.inl ⟨lt, e, s, rfl⟩))))
  | optSlice _ l p s _ _ _ => exact Or.inr (Or.inr (Or.inr (Or.inr (Or.inr ⟨l, p, s, rfl⟩))))

/-- **Catalogue, partial form.** A module none of whose methods has one of the three recorded shapes is
    predicted to reach no known panic site in any backend. -/
theorem no_known_panic_partial (backend : String) (ts : List TypeDecl)
    (hf : ∀ t ∈ ts, fieldClasses backend t.def_ = [])
    (h : ∀ t ∈ ts, ∀ m ∈ t.methods, methodClasses backend t.def_ m = []) : predict backend ts = [] := by
  unfold predict
  simp only [List.flatMap_eq_nil_iff, List.append_eq_nil_iff]
  intro t ht
  exact ⟨hf t ht, h t ht⟩

/-- the recorded shapes really are predicted (negation witnesses, replayed against the tool by the check) -/
example : predict "js" [⟨"Op", .opaqueTy, [⟨"m", some ⟨"Op", true⟩, [], some (.res (.prim .u8) (.prim .i8) .std)⟩]⟩]
    = [.jsNonCustomResultError] := by decide
example : predict "kotlin" [⟨"Op", .opaqueTy, [⟨"m", some ⟨"Op", true⟩, [("f", .fn [.prim .u8] .unit)], none⟩]⟩]
    = [.kotlinCallbackWithSelf] := by decide
example : predict "dart" [⟨"Op", .opaqueTy, [⟨"m", none, [("p", .primSlice (some (.anon, false)) .byte .std)], none⟩]⟩]
    = [.dartByteSlice] := by decide

end DiplomatModel.Props.C15
