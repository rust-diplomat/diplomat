/-
  C13 — Backend-conditional attributes apply exactly where their condition holds.
-/
import DiplomatModel.Lemmas.Cfg
namespace DiplomatModel.Props.C13
open DiplomatModel.Cfg DiplomatModel.Generated.AttrSupport

/-- Whenever `satisfies_cfg` answers at all (formulas of any depth), its answer is the plain Boolean
    meaning of the formula: backend names, `*`, `not`/`any`/`all`, `supports = feature`. -/
theorem satisfies_eq_denote (vd : Validator) (c : Cfg) (allow b af : Bool)
    (h : sat vd c allow = some (b, af)) : b = denote vd c :=
  sat_denote vd c allow b af h

/-- The `supports = <value>` table reads, for every value, the support flag of that very name, and every
    backend defines every such flag (both tables are regenerated from the source on each run). -/
theorem supports_table_sound :
    (∀ p ∈ supportsArms, p.1 = p.2)
    ∧ (∀ b ∈ backendFlags, ∀ p ∈ supportsArms, (b.2.lookup p.2).isSome = true) := by
  decide +kernel

/-- The seven backend names answer to themselves; `demo_gen` also answers to `js`; nothing else. -/
theorem backend_identity :
    otherNames.lookup "demo_gen" = some ["js"]
    ∧ ∀ t ∈ ["c", "cpp", "js", "dart", "kotlin", "nanobind"], otherNames.lookup t = some [] := by
  decide

/-- **disable, item level.** With lowering reporting no error, an item ends up disabled iff its parent
    was, or some attribute in its (inherited + own) list is a `disable` whose condition is true. -/
theorem disabled_iff (vd : Validator) (attrs : List Attr) (parent : HAttrs)
    (hok : (fromAst vd parent attrs).2 = 0) :
    (fromAst vd parent attrs).1.disable = true ↔
      parent.disable = true ∨ ∃ a ∈ attrs, a.kind = .disable ∧ denote vd a.cfg = true := by
  rw [fromAst_ok vd attrs parent hok]; simp

/-- **disable, type level.** A type is marked disabled for a backend (and lowered without methods) iff a
    true-conditioned `disable` sits on the bridge module or on the type. -/
theorem type_disabled_iff (vd : Validator) (m : ModuleDef) (t : TypeDef)
    (hm : (fromAst vd {} m.attrs).2 = 0)
    (ht : (fromAst vd ((fromAst vd {} m.attrs).1.forInheritance .type) t.attrs).2 = 0) :
    let mp := (fromAst vd {} m.attrs).1
    (lowerType vd (mp.forInheritance .type) (mp.forInheritance .methodFromModule) t).1.disabled = true ↔
      ∃ a ∈ m.attrs ++ t.attrs, a.kind = .disable ∧ denote vd a.cfg = true := by
  intro mp
  rw [lowerType_disabled]
  exact disabled_below_module vd m.attrs t.attrs .type hm ht

/-- **disable, method level.** A method of an enabled type is dropped for a backend iff a true-conditioned
    `disable` sits on the module, on its impl block, or on the method. -/
theorem method_disabled_iff (vd : Validator) (m : ModuleDef) (i : ImplDef) (me : MethodDef)
    (hm : (fromAst vd {} m.attrs).2 = 0)
    (hme : (fromAst vd ((fromAst vd {} m.attrs).1.forInheritance .methodFromModule) (methodAttrs i me)).2 = 0) :
    (fromAst vd ((fromAst vd {} m.attrs).1.forInheritance .methodFromModule) (methodAttrs i me)).1.disable = true ↔
      ∃ a ∈ m.attrs ++ i.attrs ++ me.attrs, a.kind = .disable ∧ denote vd a.cfg = true := by
  rw [List.append_assoc]
  exact disabled_below_module vd m.attrs (methodAttrs i me) .methodFromModule hm hme

/-- **rename.** The pattern an item carries is that of the last `rename` in its list whose condition is
    true, else the inherited one (module → type is inherited, module → method is not). -/
theorem rename_iff (vd : Validator) (attrs : List Attr) (parent : HAttrs)
    (hok : (fromAst vd parent attrs).2 = 0) :
    (fromAst vd parent attrs).1.rename = (lastRename vd attrs).or parent.rename := by
  rw [fromAst_ok vd attrs parent hok]

theorem module_rename_not_inherited_by_methods (a : HAttrs) :
    (a.forInheritance .methodFromModule).rename = none ∧ (a.forInheritance .type).rename = a.rename :=
  ⟨rfl, rfl⟩

/-- **Other backends are unaffected.** An attribute whose condition is false for a backend can be
    inserted anywhere in any attribute list without changing what that backend lowers … -/
theorem false_attr_invisible (vd : Validator) (a : Attr) (af : Bool)
    (h : sat vd a.cfg true = some (false, af)) (l1 l2 : List Attr) (parent : HAttrs) :
    fromAst vd parent (l1 ++ a :: l2) = fromAst vd parent (l1 ++ l2) := by
  induction l1 generalizing parent with
  | nil => simp only [List.nil_append, fromAst, h]
  | cons x xs ih =>
    -- whatever the head does, the tail is run from some parent, and `ih` holds for every parent: no case split
    simp only [List.cons_append, fromAst, ih]

/-- … in particular on the bridge module itself: the whole lowered context is identical. -/
theorem other_backends_unchanged_module (vd : Validator) (a : Attr) (af : Bool)
    (h : sat vd a.cfg true = some (false, af)) (l1 l2 : List Attr) (types : List TypeDef) :
    lower vd ⟨l1 ++ a :: l2, types⟩ = lower vd ⟨l1 ++ l2, types⟩ := by
  unfold lower
  simp only [false_attr_invisible vd a af h l1 l2]

/-- … on a type … -/
theorem other_backends_unchanged_type (vd : Validator) (a : Attr) (af : Bool)
    (h : sat vd a.cfg true = some (false, af)) (l1 l2 : List Attr) (tp mp : HAttrs) (n : String) (is : List ImplDef) :
    lowerType vd tp mp ⟨n, l1 ++ a :: l2, is⟩ = lowerType vd tp mp ⟨n, l1 ++ l2, is⟩ := by
  unfold lowerType
  simp only [false_attr_invisible vd a af h l1 l2]

/-- … and on an impl block or a method (their lists are concatenated before evaluation). -/
theorem other_backends_unchanged_method (vd : Validator) (a : Attr) (af : Bool)
    (h : sat vd a.cfg true = some (false, af)) (l1 l2 : List Attr) (mp : HAttrs) (i : ImplDef) (n : String) :
    fromAst vd mp (methodAttrs i ⟨n, l1 ++ a :: l2⟩) = fromAst vd mp (methodAttrs i ⟨n, l1 ++ l2⟩) := by
  simpa [methodAttrs] using false_attr_invisible vd a af h (i.attrs ++ l1) l2 mp

theorem other_backends_unchanged_impl (vd : Validator) (a : Attr) (af : Bool)
    (h : sat vd a.cfg true = some (false, af)) (l1 l2 : List Attr) (mp : HAttrs) (ms : List MethodDef) (me : MethodDef) :
    fromAst vd mp (methodAttrs ⟨l1 ++ a :: l2, ms⟩ me) = fromAst vd mp (methodAttrs ⟨l1 ++ l2, ms⟩ me) := by
  simpa [methodAttrs] using false_attr_invisible vd a af h l1 (l2 ++ me.attrs) mp

/-! non-vacuity -/
def jsV : Validator := (validatorFor "js").getD ⟨"", [], []⟩
example : sat jsV (.any [.backend "cpp", .not (.nameValue "supports" "namespacing")]) true = some (true, false) := by decide
example : (fromAst jsV {} [⟨.backend "js", .disable⟩]).2 = 0 ∧ (fromAst jsV {} [⟨.backend "js", .disable⟩]).1.disable = true := by decide
example : sat jsV (.backend "cpp") true = some (false, false) := by decide

end DiplomatModel.Props.C13
