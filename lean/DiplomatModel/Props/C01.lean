/-
  C01 — the Rust `extern "C"` layer and the generated C headers agree on the ABI.

  `rAbi ∘ paramTy / retTy / toSyn` is what the proc macro's Rust types mean on the wire; `cAbi ∘ cTy / cRetTy`
  is what the C backend's types mean, through the runtime header's macro instantiations.  The theorems say
  that, for every type the lowering gate accepts (any nesting), both descriptions exist and are equal —
  position by position: parameters, `self`, struct fields, return values including the arm structure of
  results and options.  Tables (`primAsC`, `primDerived`, `capiInstances`, the runtime's `#[repr(C)]` field
  lists, the template typedefs) are regenerated from /repo on every run, so the kernel re-checks these
  statements against what the source says now.
-/
import DiplomatModel.AbiGen
import DiplomatModel.Props.C05
import DiplomatModel.Lemmas.Wire
namespace DiplomatModel.Props.C01
open DiplomatModel.Lower DiplomatModel.AbiGen DiplomatModel.Generated.AbiTables DiplomatModel.Props.C05
open DiplomatModel.Abi

/-- whether a 128-bit primitive is the type itself, an option's payload or a slice's element (it does not look under
    references, boxes, results, callbacks or named types).  128-bit integers have no C spelling (documented; the
    formatter refuses them). -/
def has128 : TyName → Bool
  | .prim p => is128 p
  | .opt t _ => has128 t
  | .primSlice _ p _ => is128 p
  | _ => false

/-- `DiplomatOption<&[T]>` / `DiplomatOption<&str>`: a Diplomat-spelled option around a std-spelled slice.
    The macro's parameter conversion does not type-check for it (known finding F22 under C09), so no
    library containing it exists. -/
def dipOptOfStdSlice : TyName → Bool
  | .opt (.strRef _ _ .std) .dip => true
  | .opt (.primSlice _ _ .std) .dip => true
  | .opt (.strSlice _ .std) .dip => true
  | _ => false

def allPrims : List Prim :=
  [.bool, .char, .i8, .u8, .i16, .u16, .i32, .u32, .i64, .u64, .i128, .u128, .isize, .usize, .f32, .f64, .byte]

/-- a statement about every primitive can be checked row by row, so that a whole table is decided in one evaluation -/
theorem forall_prim {P : Prim → Prop} (h : ∀ p ∈ allPrims, P p) (p : Prim) : P p :=
  h p (by cases p <;> decide)

/-- Every primitive's C spelling (regenerated `fmt_primitive_as_c`) means what the Rust primitive means:
    same width, same signedness, same float kind, `bool` for `bool`. -/
theorem prim_abi_agree (p : Prim) (h : is128 p = false) :
    (cPrimName p).bind cNameAbi = some (rustPrimAbi p) := by
  revert p; exact forall_prim (by decide +kernel)

/-- The option / slice struct families of the runtime header exist for every primitive, under the name
    the formatter derives (regenerated `fmt_primitive_name_for_derived_type` and `MAKE_SLICES_AND_OPTIONS`
    instantiations), and their element type is the primitive's. -/
theorem derived_instance_agree (p : Prim) (h : is128 p = false) :
    ((derivedName p).bind instanceTy).bind cNameAbi = some (rustPrimAbi p) := by
  revert p; exact forall_prim (by decide +kernel)

/-- **Runtime types agree.** The `#[repr(C)]` structs of diplomat-runtime and the C runtime header describe
    the same layouts: slices are `{pointer, length}` in this order in all three Rust types and in all three
    C view structs; the result is `{union, bool}` with `ok`/`err` in the union; the option structs of the C
    header are `{union {T ok}, bool is_ok}`; callbacks are `{data, run_callback, destructor}`; the
    wrapper string types are transparent; `DiplomatOption<T>` *is* `DiplomatResult<T, ()>`. -/
theorem runtime_types_agree :
    (rtSliceReprC && rtSliceMutReprC && rtOwnedSliceReprC && rtResultReprC && rtResultValueReprC && rtCallbackReprC) = true
    ∧ (layoutOf rtSliceFields).map (·.2.1) = [Slot.ptr, Slot.usize]
    ∧ (layoutOf rtSliceMutFields).map (·.2.1) = [Slot.ptr, Slot.usize]
    ∧ (layoutOf rtOwnedSliceFields).map (·.2.1) = [Slot.ptr, Slot.usize]
    ∧ rtResultFields.map (·.1) = ["value", "is_ok"] ∧ (rtResultFields.map (·.2.slot)).getLast? = some Slot.bool
    ∧ rtResultValueFields.map (·.1) = ["ok", "err"]
    ∧ (layoutOf rtCallbackFields).map (fun f => (f.1, f.2.1)) = [("data", Slot.ptr), ("run_callback", Slot.fnptr), ("destructor", Slot.fnptr)]
    ∧ capi_MAKE_SLICES = "#define MAKE_SLICES(name, c_ty) typedef struct Diplomat##name##View { const c_ty* data; size_t len; } Diplomat##name##View; typedef struct Diplomat##name##ViewMut { c_ty* data; size_t len; } Diplomat##name##ViewMut; typedef struct Diplomat##name##Array { const c_ty* data; size_t len; } Diplomat##name##Array;"
    ∧ capi_MAKE_SLICES_AND_OPTIONS = "#define MAKE_SLICES_AND_OPTIONS(name, c_ty) MAKE_SLICES(name, c_ty) typedef struct Option##name {union { c_ty ok; }; bool is_ok; } Option##name; typedef struct Option##name##View {union { Diplomat##name##View ok; }; bool is_ok; } Option##name##View; typedef struct Option##name##ViewMut {union { Diplomat##name##ViewMut ok; }; bool is_ok; } Option##name##ViewMut; typedef struct Option##name##Array {union { Diplomat##name##Array ok; }; bool is_ok; } Option##name##Array;"
    ∧ structOptionTypedef = "typedef struct {{ ty_name }}_option {union { {{ty_name}} ok; }; bool is_ok; } {{ ty_name }}_option;"
    ∧ enumOptionTypedef = structOptionTypedef
    ∧ callbackStructTemplate = "typedef struct {{ cb_and_struct_def.name }} { const void* data; {{ cb_and_struct_def.return_type }} (*run_callback)(const void*{% if cb_and_struct_def.params_types != \"\" %}, {{ cb_and_struct_def.params_types }} {% endif %}); void (*destructor)(const void*);"
    ∧ (utf8StrSliceTransparent && ownedUtf8StrSliceTransparent && strSliceAlias && ownedStrSliceAlias
        && str16SliceAlias && ownedStr16SliceAlias && optionAlias) = true := by
  -- the template texts are compared as literals: deciding string equality walks them character by character
  exact ⟨by decide, by decide, by decide, by decide, by decide, by decide, by decide, by decide,
    rfl, rfl, rfl, rfl, rfl, by decide⟩

/-! ### the wire meaning of a bridge type -/

theorem cPrim_some (p : Prim) (h : is128 p = false) :
    ∃ c, cPrimName p = some c ∧ cNameAbi c = some (rustPrimAbi p) :=
  Option.bind_eq_some_iff.mp (prim_abi_agree p h)

theorem derived_some (p : Prim) (h : is128 p = false) :
    ∃ d c, derivedName p = some d ∧ instanceTy d = some c ∧ cNameAbi c = some (rustPrimAbi p) := by
  obtain ⟨c, hc, ha⟩ := Option.bind_eq_some_iff.mp (derived_instance_agree p h)
  obtain ⟨d, hd, hi⟩ := Option.bind_eq_some_iff.mp hc
  exact ⟨d, c, hd, hi, ha⟩

theorem instanceTy_str (u : Bool) : ∃ x, instanceTy (if u = true then "String16" else "String") = some x := by
  cases u <;> exact ⟨_, rfl⟩

theorem instanceTy_strs (u : Bool) : ∃ x, instanceTy (if u = true then "Strings16" else "Strings") = some x := by
  cases u <;> exact ⟨_, rfl⟩

theorem cAbi_of_simple {c : CTy} {a : Abi} (h : cAbiSimple c = some a) : cAbi c = some a := by
  cases c with
  | result => cases h
  | _ => exact h

theorem rustPrimAbi_ne_nil (p : Prim) : rustPrimAbi p ≠ [] := by cases p <;> exact List.cons_ne_nil _ _

theorem isOpaque_named {env : Env} {t : TyName} (h : isOpaque env t = true) :
    ∃ n, t = .named n ∧ isOpaqueName env n = true := by
  cases t with
  | named n => exact ⟨n, rfl, h⟩  -- `isOpaque` on a name and `isOpaqueName` are the same `match`
  | _ => cases h

theorem isZst_named {env : Env} {t : TyName} (h : isZst env t = true) :
    ∃ n out, t = .named n ∧ env.get n = some (.struct out []) := by
  revert h
  fun_cases isZst env t <;> intro h
  next n out fields hg => exact ⟨n, out, rfl, by rw [hg, List.isEmpty_iff.mp h]⟩  -- a named struct
  all_goals contradiction

/-- a struct without fields, itself or as the payload of an option: it has a C name and no storage -/
def namesZst (env : Env) : TyName → Bool
  | .opt t _ => isZst env t
  | t => isZst env t

/-- **The wire meaning of a bridge type**, written down once: what every generator's type for `t` has to mean.
    A field-less struct is listed with its name (see `namesZst`).  The shapes that never have a C type (`res`, `write`, `unit`,
    `fn`) get `[]`; that is harmless, because every lemma about `abiOf` assumes a C type. -/
def abiOf (env : Env) : TyName → Abi
  | .prim p => rustPrimAbi p
  | .ordering => [.int 8 true]
  | .named n => match env.get n with | some .enumTy => [.cenum n] | _ => [.named n]
  | .ref .. | .box _ => [.ptr]
  | .opt (.ref ..) _ | .opt (.box _) _ => [.ptr]
  | .opt x _ => mkResult [abiOf env x]
  | .strRef .. | .strSlice .. | .primSlice .. => viewAbi
  | _ => []

theorem cTy_abi {env : Env} {t : TyName} {c : CTy} (hc : cTy env t = some c) (h128 : has128 t = false) :
    cAbiSimple c = some (abiOf env t) := by
  -- the branches named are those that consult a regenerated table
  revert hc
  fun_cases cTy env t <;> intro hc
  all_goals try contradiction
  case case1 p => obtain ⟨n, hn, ha⟩ := cPrim_some p h128; rw [hn] at hc; cases hc; exact ha  -- a primitive
  case case2 => obtain ⟨n, hn, ha⟩ := cPrim_some .i8 rfl; rw [hn] at hc; cases hc; exact ha  -- `Ordering`, an `i8`
  case case14 sd p =>  -- `Option<prim>`
    obtain ⟨d, ci, hd, hi, ha⟩ := derived_some p h128; rw [hd] at hc; cases hc; simp [cAbiSimple, hi, ha, abiOf]
  case case19 sd l p s =>  -- `Option` of a slice of primitives
    obtain ⟨d, ci, hd, hi, -⟩ := derived_some p h128; rw [hd] at hc; cases hc; simp [cAbiSimple, hi, abiOf]
  case case23 l p s =>  -- a slice of primitives
    obtain ⟨d, ci, hd, hi, -⟩ := derived_some p h128; rw [hd] at hc; cases hc; simp [cAbiSimple, hi, abiOf]
  all_goals
    cases hc
    simp [cAbiSimple, abiOf, instanceTy_str, instanceTy_strs, *]

theorem ffiSafe_strRef (lt : Option Lt) (e : Enc) (sd : Sd) : ffiSafeVersion (.strRef lt e sd) = .strRef lt e .dip := by
  cases sd <;> rfl

theorem ffiSafe_strSlice (e : Enc) (sd : Sd) : ffiSafeVersion (.strSlice e sd) = .strSlice e .dip := by
  cases sd <;> rfl

theorem ffiSafe_primSlice (l : Option (Lt × Bool)) (p : Prim) (sd : Sd) :
    ffiSafeVersion (.primSlice l p sd) = .primSlice l p .dip := by
  cases sd <;> rfl

/-- the Rust side: the FFI-safe spelling means the same, provided no field-less struct is named (Rust gives it
    no storage, C cannot) -/
theorem rust_abi {env : Env} {t : TyName} (hc : (cTy env t).isSome = true) (hz : namesZst env t = false) :
    rAbi env (toSyn (ffiSafeVersion t)) = some (abiOf env t) := by
  -- along `cTy`, so that only shapes with a C type arise
  revert hc
  fun_cases cTy env t <;> intro hc
  all_goals try contradiction
  -- an optional primitive: the arm has storage
  case case14 sd p => simp [ffiSafeVersion, toSyn, rAbi, abiOf, rArm_ne (rustPrimAbi_ne_nil p)]
  -- structs and enums, and options of them: by the environment's entry (`hz`: the struct has fields)
  case case3 | case4 | case15 | case16 => simp_all [namesZst, isZst, ffiSafeVersion, toSyn, rAbi, abiOf]
  -- slices and options of slices: by their FFI-safe spelling
  case case18 | case19 | case20 | case22 | case23 | case24 =>
    simp only [ffiSafeVersion, ffiSafe_strRef, ffiSafe_strSlice, ffiSafe_primSlice]
    rfl
  -- primitives and pointers: both sides compute
  all_goals rfl

theorem abiOf_ne_nil {env : Env} {t : TyName} (hc : (cTy env t).isSome = true) : abiOf env t ≠ [] := by
  cases t with
  | prim p => exact rustPrimAbi_ne_nil p
  | named n => simp only [abiOf]; split <;> exact List.cons_ne_nil _ _
  | opt x sd => cases x <;> exact List.cons_ne_nil _ _
  | res | write | unit | fn => cases hc  -- the shapes on which `abiOf` is empty have no C type
  | _ => exact List.cons_ne_nil _ _

/-! ### the gate's shapes have a C type -/

theorem inOk_cTy {env : Env} {sup : Support} {is : Bool} {t : TyName} (h : InOk env sup is t)
    (hfn : ∀ ps r, t ≠ .fn ps r) (h128 : has128 t = false) : (cTy env t).isSome = true ∧ namesZst env t = false := by
  cases h with
  | prim _ p => obtain ⟨c, hc, -⟩ := cPrim_some p h128; simp [cTy, hc, namesZst, isZst]
  | struct _ _ _ hg hne => simp [cTy, namesZst, isZst, hg, hne]
  | enum _ _ hg => simp [cTy, namesZst, isZst, hg]
  | refOpaque _ _ _ _ ho | optRefOpaque _ _ _ _ ho =>
    obtain ⟨n, rfl, hn⟩ := isOpaque_named ho; simp [cTy, hn, namesZst, isZst]
  | optNamed _ n sd _ _ _ hin =>
    cases hin with
    | struct _ _ _ hg hne => simp [cTy, namesZst, isZst, hg, hne]
    | enum _ _ hg => simp [cTy, namesZst, isZst, hg]
  | optPrim _ p _ _ _ | optSlice _ _ p _ _ _ _ | slice _ _ p _ _ =>
    obtain ⟨d, _, hd, -⟩ := derived_some p h128; simp [cTy, hd, namesZst, isZst]
  | callback ps r => exact absurd rfl (hfn ps r)
  | _ => exact ⟨rfl, rfl⟩

/-- every output shape has a C type; and `namesZst = isZst`: only the type itself can be a field-less struct (inside a
    `Result` / `Option` return), never an option's payload -/
theorem outOk_cTy {env : Env} {sup : Support} {is iro : Bool} {t : TyName} (h : OutOk env sup is iro t)
    (h128 : has128 t = false) : (cTy env t).isSome = true ∧ namesZst env t = isZst env t := by
  cases h with
  | prim _ _ p => obtain ⟨c, hc, -⟩ := cPrim_some p h128; simp [cTy, hc, namesZst]
  | ordering _ => obtain ⟨c, hc, -⟩ := cPrim_some .i8 rfl; simp [cTy, hc, namesZst]
  | struct _ _ n out fields hg _ => simp [cTy, namesZst, hg]
  | enum _ _ n hg => simp [cTy, namesZst, hg]
  | refOpaque _ _ _ _ _ ho | boxOpaque _ _ _ ho | optRefOpaque _ _ _ _ _ ho | optBoxOpaque _ _ _ ho =>
    obtain ⟨n, rfl, hn⟩ := isOpaque_named ho; simp [cTy, hn, namesZst, isZst]
  | optNamed _ _ n sd _ _ _ hin =>
    cases hin with
    | struct _ _ _ out fields hg hne => simp_all [cTy, namesZst, isZst]
    | enum _ _ _ hg => simp [cTy, namesZst, isZst, hg]
  | optPrim _ _ p _ _ _ | borrowedSlice _ _ _ p _ =>
    obtain ⟨d, _, hd, -⟩ := derived_some p h128; simp [cTy, hd, namesZst, isZst]
  | borrowedStr => exact ⟨rfl, rfl⟩

/-- outside a `Result` / `Option` return an accepted output type has storage -/
theorem outOk_storage {env : Env} {sup : Support} {is : Bool} {t : TyName} (h : OutOk env sup is false t) :
    isZst env t = false := by
  cases h with
  | struct _ _ n out fields hg hz => simpa [isZst, hg] using hz
  | enum _ _ n hg => simp [isZst, hg]
  | _ => rfl

/-- what the gate accepts outside a `Result` / `Option` return it accepts inside one -/
theorem outOk_mono (env : Env) (sup : Support) (is : Bool) (t : TyName) (h : OutOk env sup is false t) :
    OutOk env sup is true t := by
  cases h with
  | struct _ _ n out fields hg _ => exact .struct _ _ n out fields hg (.inl rfl)  -- the only premise that mentions `iro`
  | enum _ _ n hg => exact .enum _ _ n hg
  | _ => constructor <;> assumption

/-! ### the spellings the macro writes, against the FFI-safe one -/

/-- `param_ty` and `ffi_safe_version` written out with `to_syn` mean the same, for every type that has a C type
    except the F22 shape (whose `param_ty` keeps the std slice inside the `DiplomatOption`) -/
theorem paramTy_abi {env : Env} {t : TyName} (hc : (cTy env t).isSome = true) (hf22 : dipOptOfStdSlice t = false) :
    rAbi env (paramTy t) = rAbi env (toSyn (ffiSafeVersion t)) := by
  cases t with
  | opt x sd =>
    cases x with
    | strRef _ _ s | primSlice _ _ s | strSlice _ s =>
      cases s with
      | dip => cases sd <;> rfl
      | std =>
        cases sd with
        | std => rfl
        | dip => cases hf22  -- the F22 shape, the only one of the four spellings on which the two differ
    | prim | named | ref | box => cases sd <;> rfl
    | _ => cases hc
  | strRef _ _ sd | strSlice _ sd | primSlice _ _ sd => cases sd <;> rfl
  | _ => rfl

theorem paramTy_of_ffiSafe {t : TyName} (h : isFfiSafe t = true) : paramTy t = toSyn t := by
  cases t with
  | strRef _ _ sd | strSlice _ sd | primSlice _ _ sd =>
    obtain rfl : sd = .dip := by simpa [isFfiSafe] using h
    rfl
  | opt x sd => simp [paramTy, h]
  | _ => rfl

theorem retTy_plain {t : TyName} (hres : ∀ ok err sd, t ≠ .res ok err sd) (hopt : ∀ v sd, t ≠ .opt v sd) :
    retTy (some t) = paramTy t := by
  cases t with
  | res ok err sd => exact absurd rfl (hres ok err sd)
  | opt v sd => exact absurd rfl (hopt v sd)
  | _ => rfl

/-! ### input and output positions: the C type and the macro's spelling both mean `abiOf` -/

theorem in_agree {env : Env} {sup : Support} {is : Bool} {t : TyName} (h : InOk env sup is t)
    (hfn : ∀ ps r, t ≠ .fn ps r) (h128 : has128 t = false) (hf22 : dipOptOfStdSlice t = false) :
    ∃ c, cTy env t = some c ∧ cAbiSimple c = some (abiOf env t) ∧ rAbi env (paramTy t) = some (abiOf env t) := by
  obtain ⟨hs, hz⟩ := inOk_cTy h hfn h128
  obtain ⟨c, hc⟩ := Option.isSome_iff_exists.mp hs
  exact ⟨c, hc, cTy_abi hc h128, paramTy_abi hs hf22 ▸ rust_abi hs hz⟩

theorem out_agree {env : Env} {sup : Support} {is iro : Bool} {t : TyName} (h : OutOk env sup is iro t)
    (h128 : has128 t = false) (hz : isZst env t = false) :
    ∃ c, cTy env t = some c ∧ cAbiSimple c = some (abiOf env t) ∧ abiOf env t ≠ []
      ∧ rAbi env (toSyn (ffiSafeVersion t)) = some (abiOf env t) ∧ rAbi env (paramTy t) = some (abiOf env t) := by
  obtain ⟨hs, hz'⟩ := outOk_cTy h h128
  obtain ⟨c, hc⟩ := Option.isSome_iff_exists.mp hs
  have hr := rust_abi hs (hz' ▸ hz)
  exact ⟨c, hc, cTy_abi hc h128, abiOf_ne_nil hs, hr,
    paramTy_abi hs (by cases h <;> rfl) ▸ hr⟩  -- `by …`: `dipOptOfStdSlice t = false`, for every output shape

/-- **Parameter types agree.** For every type the gate accepts in parameter position — any nesting of
    options around primitives, enums, structs, slices, strings, slices of strings, opaque references — the C
    backend has a type for it, both wire meanings are defined, and they are equal.
    `_partial`: 128-bit integers (no C spelling), the F22 shape (does not compile) and callbacks (see
    `callback_sig_agree`) are excluded by hypothesis. -/
theorem param_agree_partial (env : Env) (sup : Support) (t : TyName)
    (h : InOk env sup false t) (h128 : has128 t = false) (hf22 : dipOptOfStdSlice t = false)
    (hfn : ∀ ps r, t ≠ .fn ps r) :
    ∃ c, cTy env t = some c ∧ rAbi env (paramTy t) = cAbi c ∧ (cAbi c).isSome = true := by
  obtain ⟨c, hc, ha, hr⟩ := in_agree h hfn h128 hf22
  exact ⟨c, hc, hr.trans (cAbi_of_simple ha).symm, by simp [cAbi_of_simple ha]⟩

/-- `self` agrees: an opaque is passed as a pointer (`const` iff `&self`), a struct or enum by value. -/
theorem self_agree (env : Env) (owner : String) (s : ASelf) :
    (env.get owner = some .opaqueTy → s.byRef = true →
        cTy env (selfTyName owner s) = some (.opaquePtr (!s.mutable) owner)
        ∧ rAbi env (toSyn (selfTyName owner s)) = some [.ptr])
    ∧ (∀ fields, env.get owner = some (.struct false fields) → fields.isEmpty = false → s.byRef = false →
        cTy env (selfTyName owner s) = some (.structTy owner)
        ∧ rAbi env (toSyn (selfTyName owner s)) = some [.named owner])
    ∧ (env.get owner = some .enumTy → s.byRef = false →
        cTy env (selfTyName owner s) = some (.enumTy owner)
        ∧ rAbi env (toSyn (selfTyName owner s)) = some [.cenum owner]) := by
  refine ⟨?_, ?_, ?_⟩
  · intro hg hr
    simp [selfTyName, hr, cTy, isOpaqueName, hg, toSyn, rAbi, isPtrTo]
  · intro fields hg hne hr
    simp [selfTyName, hr, cTy, hg, toSyn, rAbi, hne]
  · intro hg hr
    simp [selfTyName, hr, cTy, hg, toSyn, rAbi]

/-- struct fields are written by the user and must be FFI-safe as written -/
def fieldOk (env : Env) (sup : Support) (out : Bool) (t : TyName) : Prop :=
  isFfiSafe t = true ∧ (if out then OutOk env sup true false t else InOk env sup true t)

/-- **Struct fields agree** (input structs): the Rust field type as the user wrote it (`to_syn`; the macro adds
    `#[repr(C)]`) and the C field type have the same wire meaning, field by field, hence the same layout. -/
theorem field_agree (env : Env) (sup : Support) (t : TyName)
    (hs : isFfiSafe t = true) (h : InOk env sup true t) (h128 : has128 t = false)
    (hf22 : dipOptOfStdSlice t = false) :
    ∃ c a, cTy env t = some c ∧ cAbi c = some a ∧ rAbi env (toSyn t) = some a := by
  obtain ⟨c, hc, ha, hr⟩ := in_agree h (by rintro ps r rfl; cases h) h128 hf22
  exact ⟨c, _, hc, cAbi_of_simple ha, paramTy_of_ffiSafe hs ▸ hr⟩

/-- the payload of a returned `Result` arm / `Option`: both sides exist and contribute the same union members;
    a payload without storage contributes none on either side -/
theorem arm_agree (env : Env) (sup : Support) (t : TyName)
    (h : t = .unit ∨ OutOk env sup false true t) (h128 : has128 t = false) :
    ∃ oc a, cArm env t = some oc ∧ rAbi env (toSyn (ffiSafeVersion t)) = some a ∧ cArmAbi oc = some (rArm a) := by
  rcases h with rfl | h
  · exact ⟨none, [], rfl, rfl, rfl⟩
  cases hz : isZst env t with
  | true =>
    -- a field-less struct: no union member in C, no storage in Rust
    obtain ⟨n, out, rfl, hg⟩ := isZst_named hz
    exact ⟨none, [], by simp [cArm, hz], by simp [ffiSafeVersion, toSyn, rAbi, hg], rfl⟩
  | false =>
    obtain ⟨c, hc, ha, hne, hr, -⟩ := out_agree h h128 hz
    have hu : isUnit t = false := by cases h <;> rfl
    exact ⟨some c, _, by simp [cArm, hu, hz, hc], hr, by simp [cArmAbi, ha, rArm_ne hne]⟩

def has128Ret : Option TyName → Bool
  | some (.res a b _) => has128 a || has128 b
  | some t => has128 t
  | none => false

/-- **Return values agree.** For every return type the gate accepts — nothing, a plain value, an optional
    pointer, `Option<T>` of a non-pointer, `Result<T, E>` in either spelling with any accepted payloads —
    the C return type exists, both wire meanings are defined and equal: `void` for unit, the pointer for
    (optional) opaques, and `{union {ok; err}; bool is_ok}` with exactly the arms that have storage. -/
theorem ret_agree (env : Env) (sup : Support) (abi : String) (r : Option TyName)
    (h : RetOk env sup r) (h128 : has128Ret r = false) :
    ∃ c a, cRetTy env abi r = some c ∧ cAbi c = some a ∧ rAbi env (retTy r) = some a := by
  revert h
  fun_cases RetOk env sup r <;> intro h
  next => exact ⟨.void, [], rfl, rfl, rfl⟩  -- nothing
  next => exact ⟨.void, [], rfl, rfl, rfl⟩  -- unit
  next ok err sd =>  -- a `Result`
    simp only [has128Ret, Bool.or_eq_false_iff] at h128
    obtain ⟨oa, a, h1, h2, h3⟩ := arm_agree env sup ok h.1 h128.1
    obtain ⟨ob, b, h4, h5, h6⟩ := arm_agree env sup err h.2 h128.2
    refine ⟨.result abi oa ob, mkResult (rArm a ++ rArm b), by simp [cRetTy, h1, h4], cAbi_result h3 h6, ?_⟩
    cases sd <;> simp [retTy, rAbi, h2, h5]
  next sd b =>  -- `Option<Box<_>>`: returned as the pointer; the gate admits only the std spelling
    obtain ⟨c, hc, ha, -, hr, -⟩ := out_agree h h128 rfl
    cases h
    exact ⟨c, _, hc, cAbi_of_simple ha, hr⟩
  next sd lt m b =>  -- `Option<&_>`
    obtain ⟨c, hc, ha, -, hr, -⟩ := out_agree h h128 rfl
    cases h
    exact ⟨c, _, hc, cAbi_of_simple ha, hr⟩
  next sd => exact ⟨.result abi none none, mkResult [], rfl, rfl, rfl⟩  -- `Option<()>`
  next sd v hb hr hu =>
    -- `Option` of anything else comes back as `DiplomatResult<T, ()>` / a result struct without an `err` member
    -- (`hb`, `hr` select that branch of `cRetTy` and `retTy`)
    obtain ⟨oa, a, h1, h2, h3⟩ := arm_agree env sup v (.inr h) h128
    simp only [cRetTy, retTy, rAbi, h1, h2]
    exact ⟨_, _, rfl, cAbi_result h3 cArmAbi_none, by simp⟩
  next t hu hres hopt =>  -- a plain type
    simp only [has128Ret] at h128
    obtain ⟨c, hc, ha, -, -, hp⟩ := out_agree h h128 (outOk_storage h)
    simp only [cRetTy, retTy_plain hres hopt]
    exact ⟨c, _, hc, cAbi_of_simple ha, hp⟩

/-! ### callbacks: the signature of `run_callback` -/

/-- **A callback argument agrees.** For every type the gate accepts as a callback parameter (lowered with the
    output rules), the type the macro puts into the transmuted `run_callback` signature and the type the C
    backend declares in the wrapper struct have the same, defined, wire description. -/
theorem callback_arg_agree (env : Env) (sup : Support) (t : TyName)
    (h : OutOk env sup false false t) (h128 : has128 t = false) :
    ∃ c a, cTy env t = some c ∧ cAbiSimple c = some a ∧ rAbi env (paramTy t) = some a ∧ a ≠ [] := by
  obtain ⟨c, hc, ha, hne, -, hp⟩ := out_agree h h128 (outOk_storage h)
  exact ⟨c, _, hc, ha, hp, hne⟩

/-- **The callback signature agrees** (arguments of any accepted type; results: unit, primitives, enums and structs
    by value — what `to_syn` leaves FFI-safe). The C wrapper struct's `run_callback` has as many arguments as the
    signature the macro transmutes to, after the leading `void*`, each with the same wire description, and the same
    result. -/
theorem callback_sig_agree (env : Env) (sup : Support) (ps : List TyName) (r : TyName)
    (hps : ∀ p ∈ ps, OutOk env sup false false p ∧ has128 p = false)
    (hr : r = .unit ∨ (∃ p, r = .prim p ∧ is128 p = false) ∨ (∃ n, r = .named n ∧ InOk env sup false (.named n))) :
    ∃ cs cr, cbCSig env ps r = some (cs, cr)
      ∧ cs.map cAbiSimple = (cbRustSig ps r).1.map (rAbi env)
      ∧ cs.length = ps.length
      ∧ cAbiSimple cr = rAbi env (cbRustSig ps r).2 ∧ (cAbiSimple cr).isSome = true := by
  obtain ⟨cs, hcs, hmap⟩ := optMapM_map (cTy env) cAbiSimple (fun p => rAbi env (paramTy p)) ps
    (fun p hp => by
      obtain ⟨c, a, h1, h2, h3, _⟩ := callback_arg_agree env sup p (hps p hp).1 (hps p hp).2
      exact ⟨c, h1, by rw [h2, h3]⟩)
  -- the result: `void` for unit, otherwise the C type of an accepted by-value input
  obtain ⟨cr, hcr, hres, hsome⟩ : ∃ cr, (if isUnit r then some CTy.void else cTy env r) = some cr
      ∧ cAbiSimple cr = rAbi env (toSyn r) ∧ (cAbiSimple cr).isSome = true := by
    rcases hr with rfl | ⟨p, rfl, hp⟩ | ⟨n, rfl, hn⟩
    · exact ⟨.void, rfl, rfl, rfl⟩
    · obtain ⟨c, hc, ha, hr⟩ := in_agree (sup := sup) (.prim false p) (by simp) hp rfl
      exact ⟨c, hc, ha.trans hr.symm, by simp [ha]⟩
    · obtain ⟨c, hc, ha, hr⟩ := in_agree hn (by simp) rfl rfl
      exact ⟨c, hc, ha.trans hr.symm, by simp [ha]⟩
  exact ⟨cs, cr, by simp [cbCSig, hcs, hcr], by rw [hmap]; simp [cbRustSig, List.map_map, Function.comp_def],
    optMapM_length hcs, hres, hsome⟩

/-- one parameter of a method other than the trailing write buffer (that is the separate disjunct `p.2 = .write ∨ …`
    in the theorems): a callback, of which nothing is demanded, or an input type the gate accepts (`lower_method`),
    with the two exclusions `has128` and `dipOptOfStdSlice` -/
def ParamOk (env : Env) (sup : Support) (t : TyName) : Prop :=
  (∃ ps r, t = .fn ps r) ∨
  (InOk env sup false t ∧ has128 t = false ∧ dipOptOfStdSlice t = false ∧ (∀ ps r, t ≠ .fn ps r))

def SelfAgreeOk (env : Env) (owner : String) : Option ASelf → Prop
  | none => True
  | some s =>
    (env.get owner = some .opaqueTy ∧ s.byRef = true)
    ∨ (∃ fields, env.get owner = some (.struct false fields) ∧ fields.isEmpty = false ∧ s.byRef = false)
    ∨ (env.get owner = some .enumTy ∧ s.byRef = false)

/-- one parameter position: the write buffer is a pointer on both sides, a callback is the same
    three-word struct on both sides, anything else is `param_agree_partial`.  "Same meaning, and it is defined" is
    written as one equation between pairs, so that `method_agree` can carry it through the parameter list by `optMapM_map`. -/
theorem param_pos_agree (env : Env) (sup : Support) (abi : String) (p : String × TyName)
    (h : p.2 = .write ∨ ParamOk env sup p.2) :
    ∃ c, cParam1 env abi p = some c ∧ (cAbi c.2, (cAbi c.2).isSome) = (rAbi env (macroParam1 p).2, true) := by
  obtain ⟨n, t⟩ := p
  rcases h with rfl | ⟨ps, r, rfl⟩ | ⟨hin, h128, hf22, hfn⟩
  · exact ⟨("write", .writePtr), rfl, by simp [macroParam1, rAbi, isPtrTo, cAbiSimple]⟩
  · exact ⟨(n ++ "_cb_wrap", .callback abi n), rfl, by simp [macroParam1, paramTy, toSyn, rAbi, cAbiSimple]⟩
  · obtain ⟨c, hc, ha, hs⟩ := param_agree_partial env sup t hin h128 hf22 hfn
    -- neither side treats `t` specially: it is not the write buffer (not an accepted input) nor a callback (`hfn`);
    -- `simp` needs `hw` in context to reduce the catch-all branches of `cParam1` and `macroParam1`
    have hw : t ≠ .write := by rintro rfl; cases hin
    exact ⟨(n, c), by simp [cParam1, hc], by simp [macroParam1, ha, hs]⟩

/-- **Methods agree.** For a method the gate accepts: the C prototype exists; it has as many parameters as
    the `extern "C" fn` the macro generates, in the same order (`self`/`this` first, the write buffer where the
    method lists it); each position has the same, defined, wire meaning; and so has the return value.  The
    symbol is the same string by construction (`abiName`, also C06). -/
theorem method_agree (env : Env) (sup : Support) (pfx owner : String) (m : AMethod)
    (hself : SelfAgreeOk env owner m.self)
    (hparams : ∀ p ∈ m.params, p.2 = .write ∨ ParamOk env sup p.2)
    (hret : RetOk env sup m.ret) (h128 : has128Ret m.ret = false) :
    ∃ cps cr a, cParams env pfx owner m = some cps ∧ cRetTy env (abiName pfx owner m.name) m.ret = some cr
      ∧ cps.length = (macroParams owner m).length
      ∧ cps.map (fun c => (cAbi c.2, (cAbi c.2).isSome)) = (macroParams owner m).map (fun p => (rAbi env p.2, true))
      ∧ cAbi cr = some a ∧ rAbi env (retTy m.ret) = some a := by
  obtain ⟨cr, a, hcr, hca, hra⟩ := ret_agree env sup (abiName pfx owner m.name) m.ret hret h128
  obtain ⟨cs, hcs, hmap⟩ := optMapM_map (cParam1 env (abiName pfx owner m.name))
    (fun c => (cAbi c.2, (cAbi c.2).isSome)) (fun p => (rAbi env (macroParam1 p).2, true)) m.params
    (fun p hp => param_pos_agree env sup _ p (hparams p hp))
  have hself' : ∃ sc, cSelf env owner m = some sc
      ∧ sc.map (fun c => (cAbi c.2, (cAbi c.2).isSome)) = (macroSelf owner m).map (fun p => (rAbi env p.2, true)) := by
    unfold cSelf macroSelf
    cases hs : m.self with
    | none => exact ⟨[], rfl, rfl⟩
    | some s =>
      simp only [SelfAgreeOk, hs] at hself
      have sa := self_agree env owner s
      rcases hself with ⟨hg, hr⟩ | ⟨fields, hg, hne, hr⟩ | ⟨hg, hr⟩
      · obtain ⟨h1, h2⟩ := sa.1 hg hr
        exact ⟨[("self", .opaquePtr (!s.mutable) owner)], by simp [h1], by simp [h2, cAbiSimple]⟩
      · obtain ⟨h1, h2⟩ := sa.2.1 fields hg hne hr
        exact ⟨[("self", .structTy owner)], by simp [h1], by simp [h2, cAbiSimple]⟩
      · obtain ⟨h1, h2⟩ := sa.2.2 hg hr
        exact ⟨[("self", .enumTy owner)], by simp [h1], by simp [h2, cAbiSimple]⟩
  obtain ⟨sc, hsc, hsm⟩ := hself'
  refine ⟨sc ++ cs, cr, a, by simp [cParams, hsc, hcs], hcr, ?_, ?_, hca, hra⟩
  · have h1 := congrArg List.length hsm
    simp only [List.length_map] at h1
    simp [macroParams, h1, optMapM_length hcs]
  · simp [macroParams, hsm, hmap, List.map_map]

/-! ### statements in terms of the gate's own functions -/

theorem param_agree_gate (env : Env) (sup : Support) (t : TyName)
    (h : inErrs env sup false t = []) (h128 : has128 t = false) (hf22 : dipOptOfStdSlice t = false)
    (hfn : ∀ ps r, t ≠ .fn ps r) :
    ∃ c, cTy env t = some c ∧ rAbi env (paramTy t) = cAbi c ∧ (cAbi c).isSome = true :=
  param_agree_partial env sup t ((in_gate_iff env sup false t).mp h) h128 hf22 hfn

theorem ret_agree_gate (env : Env) (sup : Support) (abi : String) (r : Option TyName)
    (h : retErrs env sup r = []) (h128 : has128Ret r = false) :
    ∃ c a, cRetTy env abi r = some c ∧ cAbi c = some a ∧ rAbi env (retTy r) = some a :=
  ret_agree env sup abi r ((ret_gate_iff env sup r).mp h) h128

/-! ### the defect this model exposed (F24), as a statement about `to_syn` -/

/-- Writing a returned `Result`'s payload with `to_syn` (what the macro did before the repair) leaves a
    std `Option<u8>` inside the `#[repr(C)]` result: a type without defined layout. The C side says `OptionU8`. -/
example : rAbi [] (.dipResult (toSyn (.opt (.prim .u8) .std)) .unit) = none := by decide
example : rAbi [] (retTy (some (.res (.opt (.prim .u8) .std) .unit .std))) = some (mkResult [mkResult [[.int 8 false]]]) := by decide

/-! ### non-vacuity: concrete accepted types meet the hypotheses -/

def envEx : Env := [("Op", .opaqueTy), ("St", .struct false [("a", .prim .u8)]), ("En", .enumTy), ("Zs", .struct false [])]
def supEx : Support := ⟨true, true, true, false⟩

example : inErrs envEx supEx false (.opt (.named "St") .std) = [] ∧ has128 (.opt (.named "St") .std) = false := by decide
example : (cTy envEx (.opt (.named "St") .std)).bind cAbi = some (mkResult [[.named "St"]])
    ∧ rAbi envEx (paramTy (.opt (.named "St") .std)) = some (mkResult [[.named "St"]]) := by decide
example : retErrs envEx supEx (some (.res (.opt (.prim .i16) .dip) (.named "Zs") .std)) = [] := by decide
example : (cRetTy envEx "f" (some (.res (.opt (.prim .i16) .dip) (.named "Zs") .std))).bind cAbi
    = some (mkResult [mkResult [[.int 16 true]]]) := by decide +kernel
example : rAbi envEx (retTy (some (.res (.opt (.prim .i16) .dip) (.named "Zs") .std)))
    = some (mkResult [mkResult [[.int 16 true]]]) := by decide
example : methodAgrees envEx "p_" "Op"
    ⟨"m", some ⟨true, .named "a", false⟩, [("x", .strRef (some .anon) .utf8 .std), ("cb", .fn [.prim .u8] .unit), ("w", .write)],
      some (.res .unit (.named "En") .std)⟩ = true := by decide +kernel

/-! ### bytes: what one side stores the other side loads (`Wire.lean`) -/

open DiplomatModel.Wire in
/-- **Values cross bit for bit.** For every wire type — scalars, structs nested to any depth, `Option` / `Result`
    with payload or unit arms — and every value of that type: storing it at any address by the C layout rules and
    loading it from there by the same rules (the two sides agree on the description: theorems above) gives back
    exactly the value stored, whatever the memory held before. In particular the arm of a result that is loaded is
    the arm that was stored, and every scalar comes back with the same bytes. -/
theorem value_roundtrip (t : WTy) (v : WVal) (base : Nat) (m : Memory.Mem) (hwf : t.WF) (hv : WellTyped t v) :
    decode t base (encode t v base m) = v :=
  decode_encode t v base m hwf hv

open DiplomatModel.Wire in
/-- … and storing a value touches nothing outside its own `size` bytes (a by-value argument cannot clobber its
    neighbours) -/
theorem value_store_is_local (t : WTy) (v : WVal) (base : Nat) (m : Memory.Mem) (a : Nat) (hwf : t.WF)
    (hv : WellTyped t v) (ha : a < base ∨ base + size t ≤ a) : encode t v base m a = m a :=
  encode_outside t v base m a hwf hv ha

open DiplomatModel.Wire in
/-- **Which arm was taken survives the crossing.** -/
theorem result_arm_roundtrip (ok err : WTy) (v : WVal) (base : Nat) (m : Memory.Mem) (hwf : (WTy.result ok err).WF) :
    (WellTyped ok v → decode (.result ok err) base (encode (.result ok err) (.ok v) base m) = .ok v)
    ∧ (WellTyped err v → decode (.result ok err) base (encode (.result ok err) (.err v) base m) = .err v) :=
  ⟨decode_encode _ (.ok v) base m hwf, decode_encode _ (.err v) base m hwf⟩

open DiplomatModel.Wire in
/-- the round trip applies to the wire type of every parameter, field and return type of a bridge (layout tied to
    gcc's `sizeof` / `offsetof` numbers by the harness, `wire-layout`) -/
theorem bridge_type_roundtrip (env : Env) (fuel : Nat) (t : TyName) (w : WTy) (v : WVal) (base : Nat) (m : Memory.Mem)
    (h : wireOf env fuel t = some w) (hv : WellTyped w v) : decode w base (encode w v base m) = v :=
  decode_encode w v base m (wireOf_wf env fuel t w h) hv

open DiplomatModel.Wire in
/-- non-vacuity: `struct { a: u8, o: DiplomatOption<u32>, p: u64 }` has size 24, `o` at 4 with its flag at 8, `p` at 16,
    and a value of it exists -/
example : wireOf [("St", .struct false [("a", .prim .u8), ("o", .opt (.prim .u32) .dip), ("p", .prim .u64)])] 3 (.named "St")
    = some (.struct [.scalar 1, .result (.scalar 4) .unit, .scalar 8]) := by rfl
open DiplomatModel.Wire in
example : size (.struct [.scalar 1, .result (.scalar 4) .unit, .scalar 8]) = 24
    ∧ offsets [.scalar 1, .result (.scalar 4) .unit, .scalar 8] = [0, 4, 16]
    ∧ flagOffset (.scalar 4) .unit = 4 := by decide
open DiplomatModel.Wire in
example : WellTyped (.struct [.scalar 1, .result (.scalar 4) .unit, .scalar 8])
    (.struct [.scalar [7], .ok (.scalar [1, 2, 3, 4]), .scalar [9, 9, 9, 9, 9, 9, 9, 9]]) := by
  simp [WellTyped, WellTypedList]

end DiplomatModel.Props.C01
