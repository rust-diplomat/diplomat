/-
  C16 — Runtime slice and string views round-trip and UTF-8 checking is exact.
-/
import DiplomatModel.Slices
import DiplomatModel.Lemmas.Utf8
import DiplomatModel.Lemmas.JsStr
namespace DiplomatModel.Props.C16
open DiplomatModel.Slices DiplomatModel.Utf8

/-- slice → view → slice gives back the same pointer and length (a Rust reference is never null),
    hence the same contents in any memory, for every element size/alignment. -/
theorem view_roundtrip (align : Nat) (s : Slice) (h : s.ptr ≠ 0) :
    intoSlice align (fromSlice s) = s :=
  if_neg h

theorem view_roundtrip_contents (align size : Nat) (m : Nat → Nat) (s : Slice) (h : s.ptr ≠ 0) :
    contents m size (intoSlice align (fromSlice s)) = contents m size s := by
  rw [view_roundtrip align s h]

/-- A NULL view is accepted as the empty slice: non-null pointer, length 0, no elements
    (even if the foreign side passed a non-zero length together with NULL). -/
theorem null_is_empty (align size len : Nat) (m : Nat → Nat) (ha : 0 < align) :
    (intoSlice align ⟨0, len⟩).ptr ≠ 0 ∧ (intoSlice align ⟨0, len⟩).len = 0
      ∧ contents m size (intoSlice align ⟨0, len⟩) = [] :=
  -- the slice is `⟨dangling align, 0⟩`, and `dangling align` is `align`
  ⟨Nat.ne_of_gt ha, rfl, rfl⟩

/-- non-NULL views are taken as they are -/
theorem nonnull_view_preserved (align : Nat) (v : View) (h : v.ptr ≠ 0) :
    intoSlice align v = ⟨v.ptr, v.len⟩ :=
  if_neg h

/-- `Box<[T]>` → owned view → `Box<[T]>` is the identity (including the zero-length box, whose
    pointer is dangling but non-null), and the conversion itself frees nothing. -/
theorem owned_roundtrip (align : Nat) (b : Slice) (h : b.ptr ≠ 0) :
    ownedInto align (ownedFrom b) = b :=
  if_neg h

/-- Dropping an owned view made from a box frees exactly that box, once. -/
theorem owned_drop_once (b : Slice) (h : b.ptr ≠ 0) : ownedDrop (ownedFrom b) = [b] :=
  if_neg h

/-- Dropping a NULL owned view frees nothing; converting it yields an empty, non-null box when len = 0. -/
theorem owned_null (align : Nat) (ha : 0 < align) :
    ownedDrop ⟨0, 0⟩ = [] ∧ (ownedInto align ⟨0, 0⟩).ptr ≠ 0 ∧ (ownedInto align ⟨0, 0⟩).len = 0 :=
  ⟨rfl, Nat.ne_of_gt ha, rfl⟩

/-- The exported UTF-8 check answers true exactly for valid UTF-8: the automaton accepts a byte string
    iff it is the concatenation of the UTF-8 encodings of Unicode scalar values. Unbounded length. -/
theorem validUtf8_iff (bs : List Nat) : validUtf8 bs = true ↔ IsUtf8 bs :=
  ⟨sound bs, complete bs⟩

/-- every accepted string consists of bytes (< 256) -/
theorem validUtf8_bytes (bs : List Nat) (h : validUtf8 bs = true) : ∀ b ∈ bs, b < 256 := by
  obtain ⟨cs, hs, rfl⟩ := sound bs h
  exact List.forall_mem_flatMap.mpr fun c hc => enc_lt_256 (hs c hc).1

/-! non-vacuity -/
example : validUtf8 [0xE2, 0x82, 0xAC, 0x41] = true := by decide            -- "€A"
example : validUtf8 [0xED, 0xA0, 0x80] = false := by decide                  -- surrogate
example : validUtf8 [0xC0, 0x80] = false := by decide                        -- overlong
example : validUtf8 [0xF4, 0x90, 0x80, 0x80] = false := by decide            -- > U+10FFFF
example : intoSlice 4 (fromSlice ⟨4096, 7⟩) = ⟨4096, 7⟩ := by decide
example : ownedDrop (ownedFrom ⟨4, 0⟩) = [⟨4, 0⟩] := by decide              -- zero-length box: dangling, non-null

open DiplomatModel.JsStr in
/-- **The UTF-8 view of a JS string covers exactly the bytes written**: the length `DiplomatBuf.str8` computes by
    walking code points is the number of bytes `TextEncoder` produces — for every string, well-formed or not
    (an unpaired surrogate is three bytes either way). -/
theorem js_str8_length_exact (us : List Nat) : str8Len us = (encode us).length := by
  unfold str8Len encode scalars
  induction codePoints us with
  | nil => rfl
  | cons c cs ih =>
    simp only [List.map_cons, List.sum_cons, List.flatMap_cons, List.length_append, enc_length, cpLen_scalarOf, ih]

open DiplomatModel.JsStr in
/-- **… and Rust accepts it as a `str`**: the bytes written for any JS string (16-bit units) are well-formed UTF-8
    by the very check `diplomat_is_str` makes (`validUtf8`, proved equal to the Unicode definition above). -/
theorem js_str8_is_str (us : List Nat) (h : ∀ u ∈ us, u < 0x10000) : validUtf8 (encode us) = true := by
  rw [validUtf8_iff]
  exact ⟨scalars us, List.forall_mem_map.mpr fun d hd => scalarOf_isScalar d (codePoints_lt us h d hd), rfl⟩

open DiplomatModel.JsStr in
/-- a string cut through a surrogate pair ("a" + lead of U+1F600): four bytes, ending in U+FFFD -/
example : str8Len [0x61, 0xD83D] = 4 ∧ encode [0x61, 0xD83D] = [0x61, 0xEF, 0xBF, 0xBD]
    ∧ encode [0xD83D, 0xDE00] = [0xF0, 0x9F, 0x98, 0x80] := by decide

open DiplomatModel.JsStr in
/-- **The UTF-16 view of a JS string is exactly its code units**: what Rust reads from the `&[u16]` view over the
    bytes `DiplomatBuf.str16` wrote is the string, unit for unit — for every string, well-formed or not (no
    surrogate is touched), of any length. -/
theorem js_str16_roundtrip (us : List Nat) (h : ∀ u ∈ us, u < 0x10000) : decode16 (encode16 us) = us := by
  induction us with
  | nil => rfl
  | cons u us ih =>
    rw [encode16, List.flatMap_cons, decode16_unitBytes u (h u List.mem_cons_self), ← encode16,
      ih fun v hv => h v (List.mem_cons_of_mem _ hv)]

open DiplomatModel.JsStr in
/-- **… the buffer is exactly as large as the view**: the bytes written are twice the view's length, which is the
    size the buffer was allocated with and is freed with (so the view never reaches past the allocation, and
    `diplomat_free` gets the layout `diplomat_alloc` got). -/
theorem js_str16_size_exact (us : List Nat) :
    (encode16 us).length = str16Bytes us ∧ str16Bytes us = 2 * str16Len us := by
  refine ⟨?_, Nat.mul_comm ..⟩
  -- two bytes for every unit
  rw [encode16, List.length_flatMap]
  show (us.map fun _ => 2).sum = us.length * 2
  rw [List.map_const', List.sum_replicate_nat]

open DiplomatModel.JsStr in
/-- every byte written is a byte -/
theorem js_str16_bytes (us : List Nat) : ∀ b ∈ encode16 us, b < 256 :=
  List.forall_mem_flatMap.mpr fun _ _ => List.forall_mem_cons.mpr
    ⟨Nat.mod_lt _ (by decide), List.forall_mem_singleton.mpr (Nat.mod_lt _ (by decide))⟩

open DiplomatModel.JsStr in
/-- "é" + an unpaired lead surrogate: two units, four bytes, little-endian, the surrogate kept -/
example : str16Len [0xE9, 0xD83D] = 2 ∧ encode16 [0xE9, 0xD83D] = [0xE9, 0x00, 0x3D, 0xD8]
    ∧ decode16 (encode16 [0xE9, 0xD83D]) = [0xE9, 0xD83D] := by decide

open DiplomatModel.JsStr in
/-- **Size bounds of the UTF-8 view**: between one and three bytes per UTF-16 unit, for every JS string — the
    buffer `str8` allocates is never smaller than `string.length` and never larger than `3 * string.length`. -/
theorem js_str8_length_bounds (us : List Nat) (h : ∀ u ∈ us, u < 0x10000) :
    us.length ≤ str8Len us ∧ str8Len us ≤ 3 * us.length := by
  unfold str8Len
  fun_induction codePoints us with
  | case1 => simp  -- the empty string
  | case2 u =>  -- a single unit
    have := cpLen_pos u; have := cpLen_le3 u (h u (by simp)); simp; omega
  | case3 u v rest hc ih =>
    -- a surrogate pair: two units, four bytes
    simp only [Bool.and_eq_true] at hc
    have := pairValue_range u v hc.1 hc.2; have := cpLen_spec (pairValue u v)
    have := ih (fun w hw => h w (by simp [hw]))
    simp only [List.map_cons, List.sum_cons, List.length_cons]; omega
  | case4 u v rest hc ih =>  -- anything else: `u` stands for itself
    have := cpLen_pos u; have := cpLen_le3 u (h u (by simp))
    have := ih (fun w hw => h w (List.mem_cons_of_mem _ hw))
    simp only [List.map_cons, List.sum_cons, List.length_cons] at *; omega

end DiplomatModel.Props.C16
