/-
  C05 — The lowering gate accepts exactly the documented FFI-safe API shapes.

  `OutOk` / `InOk` / `SelfOk` / `RetOk` are the documented shapes written as a positive grammar (what may
  appear where); `outErrs` / `inErrs` / … are the transcription of the gate's checks.  The theorems say
  the gate reports no error exactly on the grammar, for types of any nesting depth, and that every
  error carries its type (and method) as context.
-/
import DiplomatModel.Lower
namespace DiplomatModel.Props.C05
open DiplomatModel.Lower

/-- documented shapes of output types (returns, out-struct fields) -/
inductive OutOk (env : Env) (sup : Support) : Bool → Bool → TyName → Prop
  | prim (is iro p) : OutOk env sup is iro (.prim p)
  | ordering (iro) : OutOk env sup false iro .ordering
  | struct (is iro n out fields) : env.get n = some (.struct out fields) → (iro = true ∨ fields.isEmpty = false) →
      OutOk env sup is iro (.named n)
  | enum (is iro n) : env.get n = some .enumTy → OutOk env sup is iro (.named n)
  | refOpaque (is iro lt m t) : isOpaque env t = true → OutOk env sup is iro (.ref lt m t)
  | boxOpaque (is iro t) : isOpaque env t = true → OutOk env sup is iro (.box t)
  | optRefOpaque (is iro lt m t) : isOpaque env t = true → OutOk env sup is iro (.opt (.ref lt m t) .std)
  | optBoxOpaque (is iro t) : isOpaque env t = true → OutOk env sup is iro (.opt (.box t) .std)
  | optNamed (is iro n sd) : isOpaque env (.named n) = false → (is && decide (sd = .std)) = false →
      sup.option = true → OutOk env sup is false (.named n) → OutOk env sup is iro (.opt (.named n) sd)
  | optPrim (is iro p sd) : (is && decide (sd = .std)) = false → sup.option = true →
      OutOk env sup is iro (.opt (.prim p) sd)
  | borrowedStr (is iro lt e sd) : OutOk env sup is iro (.strRef (some lt) e sd)
  | borrowedSlice (is iro ltm p sd) : OutOk env sup is iro (.primSlice (some ltm) p sd)

attribute [local grind intro] OutOk
attribute [local grind cases] Sd

/-- **The gate on output types.** No error is reported exactly for the documented output shapes. -/
theorem out_gate_iff (env : Env) (sup : Support) (is iro : Bool) (t : TyName) :
    outErrs env sup is iro t = [] ↔ OutOk env sup is iro t := by
  constructor
  · -- a branch of `outErrs` either reports a rule or is, with the conditions under which it is taken, one constructor:
    -- once the reporting branches are gone there is one goal per constructor of `OutOk`, in their order
    fun_induction outErrs env sup is iro t <;> intro h
    all_goals try contradiction
    all_goals grind
  · intro h
    induction h with
    | struct _ iro _ _ _ hg hz => cases iro <;> simp_all [outErrs]
    | optNamed => rw [outErrs]; simp [*]  -- unfolded once: the payload's errors are the induction hypothesis
    | _ => simp [outErrs, *]

/-- documented shapes of input types (parameters, struct fields). The callback clause refers to the
    callback-parameter and callback-return checks directly. -/
inductive InOk (env : Env) (sup : Support) : Bool → TyName → Prop
  | prim (is p) : InOk env sup is (.prim p)
  | struct (is n fields) : env.get n = some (.struct false fields) → fields.isEmpty = false → InOk env sup is (.named n)
  | enum (is n) : env.get n = some .enumTy → InOk env sup is (.named n)
  | refOpaque (is lt m t) : isOpaque env t = true → InOk env sup is (.ref lt m t)
  | optRefOpaque (is lt m t) : isOpaque env t = true → InOk env sup is (.opt (.ref lt m t) .std)
  | optNamed (is n sd) : isOpaque env (.named n) = false → (is && decide (sd = .std)) = false →
      sup.option = true → InOk env sup is (.named n) → InOk env sup is (.opt (.named n) sd)
  | optPrim (is p sd) : (is && decide (sd = .std)) = false → sup.option = true → InOk env sup is (.opt (.prim p) sd)
  | optStrs (is e s sd) : sup.option = true → InOk env sup is (.opt (.strSlice e s) sd)
  | optStr (is lt e s sd) : sup.option = true → InOk env sup is (.strRef lt e s) → InOk env sup is (.opt (.strRef lt e s) sd)
  | optSlice (is ltm p s sd) : sup.option = true → InOk env sup is (.primSlice ltm p s) → InOk env sup is (.opt (.primSlice ltm p s) sd)
  | str (is lt e sd) : (lt = some .static → sup.staticSlices = true) → InOk env sup is (.strRef lt e sd)
  | strs (is e sd) : InOk env sup is (.strSlice e sd)
  | slice (is ltm p sd) : (ltm.map (·.1) = some .static → sup.staticSlices = true) → InOk env sup is (.primSlice ltm p sd)
  | callback (ps r) : sup.callbacks = true → (ps.flatMap (callbackParamErrs env sup) = []) →
      ((match r with | .unit => [] | .fn .. => [Rule.fnInOutput] | r => inErrs.inErrsFlat env sup r) = []) →
      InOk env sup false (.fn ps r)

theorem staticErr_nil (sup : Support) (lt : Option Lt) :
    staticErr sup lt = [] ↔ (lt = some .static → sup.staticSlices = true) := by
  simp [staticErr]

attribute [local grind intro] InOk

/-- **The gate on input types.** No error is reported exactly for the documented input shapes. -/
theorem in_gate_iff (env : Env) (sup : Support) (is : Bool) (t : TyName) :
    inErrs env sup is t = [] ↔ InOk env sup is t := by
  constructor
  · -- as for `outErrs`; the branches for strings, slices and callbacks are not closed by their conditions alone
    fun_induction inErrs env sup is t <;> intro h
    all_goals try contradiction
    case case30 lt e sd => exact .str _ lt e sd ((staticErr_nil sup lt).mp h)  -- `.strRef`: the `'static` rule
    case case32 ltm p sd => exact .slice _ ltm p sd ((staticErr_nil sup _).mp h)  -- `.primSlice`: the same rule
    case case34 ps r =>  -- `.fn`: the premises of `InOk.callback` are the three checks of this branch as they stand
      obtain ⟨hc, hrest⟩ := List.append_eq_nil_iff.mp h
      cases is with
      | true => cases hrest  -- in a struct field a callback is always reported
      | false =>
        obtain ⟨hp, hr⟩ := List.append_eq_nil_iff.mp hrest
        exact .callback ps r (by simpa using hc) hp hr
    all_goals grind
  · intro h
    induction h with
    | str _ lt _ _ h => exact (staticErr_nil sup lt).mpr h
    | slice _ ltm _ _ h => exact (staticErr_nil sup _).mpr h
    | callback ps r hc hp hr =>
      simp only [inErrs, hc, hp, if_true, Bool.false_eq_true, if_false, List.nil_append]
      exact hr  -- the gate's `match` and the grammar's are two auxiliary definitions, equal by unfolding
    | optNamed | optStr | optSlice => rw [inErrs]; simp [*]
    | _ => simp [inErrs, *]

/-- documented `self` shapes (book/src/structs.md: structs and enums may have methods "which capture `self`
    by-value"): structs by value (never out-structs), opaques by reference, enums by value -/
inductive SelfOk (env : Env) : SelfParam → Prop
  | struct (ty fields) : env.get ty = some (.struct false fields) → SelfOk env ⟨ty, false⟩
  | opaqueRef (ty) : env.get ty = some .opaqueTy → SelfOk env ⟨ty, true⟩
  | enum (ty) : env.get ty = some .enumTy → SelfOk env ⟨ty, false⟩

theorem self_gate_iff (env : Env) (s : SelfParam) : selfErrs env s = [] ↔ SelfOk env s := by
  constructor
  · obtain ⟨ty, byRef⟩ := s
    fun_cases selfErrs env ⟨ty, byRef⟩ <;> intro h
    all_goals try contradiction
    -- the three branches that report nothing, each with its conditions
    next out fields hg ho hr =>  -- a struct that is not an out-struct, by value
      obtain rfl : out = false := by simpa using ho
      obtain rfl : byRef = false := by simpa using hr
      exact .struct ty fields hg
    next hg hr => obtain rfl : byRef = true := hr; exact .opaqueRef ty hg  -- an opaque, by reference
    next hg hr =>  -- an enum, by value
      obtain rfl : byRef = false := by simpa using hr
      exact .enum ty hg
  · intro h
    cases h <;> simp_all [selfErrs]

/-- documented return shapes: nothing / unit, `Result` only at top level with unit-or-output arms,
    `Option` of a pointer, of unit, or of an output payload, or a plain output type -/
def RetOk (env : Env) (sup : Support) : Option TyName → Prop
  | none => True
  | some .unit => True
  | some (.res ok err _) =>
    (ok = .unit ∨ OutOk env sup false true ok) ∧ (err = .unit ∨ OutOk env sup false true err)
  | some (.opt v sd) =>
    match v with
    | .box _ | .ref .. => OutOk env sup false true (.opt v sd)
    | .unit => True
    | t => OutOk env sup false true t
  | some t => OutOk env sup false false t

theorem unit_not_outOk (env : Env) (sup : Support) (a b : Bool) : ¬ OutOk env sup a b .unit := by
  intro h; cases h

theorem arm_gate_iff (env : Env) (sup : Support) (t : TyName) :
    armErrs env sup t = [] ↔ (t = .unit ∨ OutOk env sup false true t) := by
  fun_cases armErrs env sup t
  · simp
  next ht => rw [out_gate_iff, or_iff_right ht]

theorem ret_gate_iff (env : Env) (sup : Support) (r : Option TyName) :
    retErrs env sup r = [] ↔ RetOk env sup r := by
  fun_cases retErrs env sup r <;> simp only [RetOk, List.append_eq_nil_iff, arm_gate_iff, out_gate_iff]

/-- **Module level.** The gate accepts a module iff every type declaration is free of violations. -/
theorem module_gate_iff (sup : Support) (ts : List TypeDecl) :
    moduleErrs sup ts = [] ↔ ∀ t ∈ ts, typeErrs (ts.map fun t => (t.name, t.def_)) sup t = [] := by
  unfold moduleErrs
  simp only [List.flatMap_eq_nil_iff]

/-- a method is accepted iff `self`, every parameter (a trailing `&mut DiplomatWrite` apart) and the
    return type are documented shapes, a method that writes its output returns nothing besides (unit, `Option<()>`
    or `Result<(), E>`), and no lifetime is elided in the return type -/
theorem method_gate (env : Env) (sup : Support) (m : Method) :
    methodErrs env sup m = [] ↔
      ((∀ s, m.self = some s → SelfOk env s)
       ∧ (∀ p ∈ inputParams m, InOk env sup false p.2)
       ∧ RetOk env sup m.ret
       ∧ (takesWrite m = true → writeRetOk m.ret = true)
       ∧ elisionErrs env m = []) := by
  -- the elision check runs only on a method whose shape passed
  have hsplit : methodErrs env sup m = [] ↔ shapeErrs env sup m = [] ∧ elisionErrs env m = [] := by
    unfold methodErrs; cases shapeErrs env sup m <;> simp
  have hself : selfErrsOpt env m.self = [] ↔ ∀ s, m.self = some s → SelfOk env s := by
    cases m.self <;> simp [selfErrsOpt, self_gate_iff]
  simp [hsplit, shapeErrs, writeErrs, hself, ret_gate_iff, in_gate_iff, and_assoc]

/-- the elision check fires exactly on a return type with an anonymous lifetime -/
theorem elisionErrs_nil_iff (env : Env) (m : Method) : elisionErrs env m = [] ↔ retHasAnon m = false := by
  unfold elisionErrs
  cases retHasAnon m
  · simp
  · simp only [if_true]; (repeat' split) <;> simp

/-- elision: a return type without anonymous lifetimes never trips the check -/
theorem no_elision_ok (env : Env) (m : Method) (h : retHasAnon m = false) :
    elisionErrs env m = [] :=
  (elisionErrs_nil_iff env m).mpr h

/-- … and one with an anonymous lifetime is always rejected (or makes the elision machine panic) -/
theorem elided_return_rejected (env : Env) (m : Method) (h : retHasAnon m = true) :
    elisionErrs env m ≠ [] :=
  fun e => by simp [(elisionErrs_nil_iff env m).mp e] at h

/-- **Error context.** Every error carries the type it arose in, and the method when it arose in one. -/
theorem error_context (sup : Support) (ts : List TypeDecl) :
    ∀ e ∈ moduleErrs sup ts, ∃ t ∈ ts, e.1 = t.name ∨ ∃ m ∈ t.methods, e.1 = t.name ++ "::" ++ m.name := by
  intro e he
  obtain ⟨t, ht, het⟩ := List.mem_flatMap.mp he
  refine ⟨t, ht, ?_⟩
  -- every list `typeErrs` builds pairs a rule with `t.name` or with `t.name ++ "::" ++ m.name`
  unfold typeErrs at het
  split at het
  all_goals simp only [List.mem_append, List.mem_map, List.mem_flatMap] at het
  all_goals grind

/-! non-vacuity: a module using many type constructors is accepted; one fault is rejected with its context -/
def envEx : Env := [("Op", .opaqueTy), ("St", .struct false [("a", .prim .u8)]), ("En", .enumTy)]
def supEx : Support := ⟨true, true, true, false⟩
example : inErrs envEx supEx false (.opt (.ref (.named "a") false (.named "Op")) .std) = [] := by decide
example : outErrs envEx supEx false false (.opt (.box (.named "Op")) .std) = [] := by decide
example : retErrs envEx supEx (some (.res (.named "St") .unit .std)) = [] := by decide
example : inErrs envEx supEx false (.box (.named "Op")) = [.boxInInput] := by decide
example : moduleErrs supEx [⟨"En", .enumTy, [⟨"m", some ⟨"En", true⟩, [], none⟩]⟩] = [("En::m", .selfRefEnum)] := by decide
example : moduleErrs supEx [⟨"Op", .opaqueTy, [⟨"m", some ⟨"Op", true⟩, [("w", .write)], some (.prim .u32)⟩]⟩] = [("Op::m", .writeWithValue)] := by decide
example : moduleErrs supEx [⟨"Op", .opaqueTy, [⟨"m", some ⟨"Op", false⟩, [], none⟩]⟩] = [("Op::m", .selfOpaqueByValue)] := by decide

end DiplomatModel.Props.C05
