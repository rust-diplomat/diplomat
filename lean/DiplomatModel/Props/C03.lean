/-
  C03 — every value moved across the boundary is destroyed exactly once (PARTIAL: the Rust side).

  The model is an ownership ledger (`Own.lean`): owners hold payload ids; `create`, `convert` (From/Into
  between the std and the FFI-safe representation), `clone`, `borrow` and `drop` are the operations the
  runtime types and the macro-generated `_destroy` functions offer.  Proved here for operation sequences
  of any length: at every reachable state live and dropped payloads together are a permutation of the
  payloads created so far — nothing is dropped twice, nothing is lost — and once every remaining owner
  is released each created payload has been dropped exactly once.

  Not modelled: what foreign code does with a pointer after handing it back (use after free on the
  foreign side), and the generated destructors/finalizers of the C++/JS/Dart/Kotlin wrappers beyond the
  textual tie the harness checks.
-/
import DiplomatModel.Lemmas.Own
namespace DiplomatModel.Props.C03
open DiplomatModel.Own

/-- **No double drop, at any point of any history**: the drop log never holds a payload twice, and no
    dropped payload is still owned by a live owner. -/
theorem never_dropped_twice (ops : List Op) (s : St) (hr : run St.init ops = some s) :
    s.dropped.Nodup ∧ ∀ p ∈ s.dropped, p ∉ allLive s.live := by
  have hn := List.nodup_append.mp (ledger_reachable hr).nodup
  exact ⟨hn.2.1, fun p hp hq => hn.2.2 p hq p hp rfl⟩

/-- **No owner shares a payload with another** (no aliasing of owned values on the Rust side). -/
theorem live_payloads_distinct (ops : List Op) (s : St) (hr : run St.init ops = some s) :
    (allLive s.live).Nodup :=
  (List.nodup_append.mp (ledger_reachable hr).nodup).1

/-- **Nothing leaks silently**: a payload created so far is either still owned or in the drop log. -/
theorem created_is_live_or_dropped (ops : List Op) (s : St) (hr : run St.init ops = some s) (p : Nat)
    (hp : p < s.nextP) : p ∈ allLive s.live ∨ p ∈ s.dropped :=
  List.mem_append.mp ((ledger_reachable hr).mem_iff.mpr (List.mem_range.mpr hp))

/-- **Exactly once**: after any history, once the remaining owners are released, the drop log is a
    permutation of all payloads ever created … -/
theorem dropAll_perm (ops : List Op) (s : St) (hr : run St.init ops = some s) :
    (dropAll s).dropped.Perm (List.range s.nextP) :=
  List.perm_append_comm.trans (ledger_reachable hr)

/-- … so each created payload occurs in it exactly once and nothing else occurs at all. -/
theorem exactly_once (ops : List Op) (s : St) (hr : run St.init ops = some s) (p : Nat) :
    (dropAll s).dropped.count p = if p < s.nextP then 1 else 0 := by
  rw [(dropAll_perm ops s hr).count_eq p, List.nodup_range.count]
  simp [List.mem_range]

/-- a `convert` (the `From` impls) neither creates nor destroys: the drop log and the set of created
    payloads are untouched, the payloads just change owner -/
theorem convert_moves (s s' : St) (h : Nat) (hs : step s (.convert h) = some s') :
    s'.dropped = s.dropped ∧ s'.nextP = s.nextP ∧ (allLive s'.live).Perm (allLive s.live) := by
  simp only [step] at hs
  split at hs
  next ps rest ht => cases hs; exact ⟨rfl, rfl, takeH_move ht _⟩  -- the owner is live
  next => cases hs  -- a dead or unknown handle: no step

/-- a `drop` logs exactly the payloads of that owner -/
theorem drop_logs_owner (s s' : St) (h : Nat) (hs : step s (.drop h) = some s') :
    ∃ ps rest, takeH s.live h = some (ps, rest) ∧ s'.dropped = s.dropped ++ ps ∧ s'.live = rest := by
  simp only [step] at hs
  split at hs
  next ps rest ht => cases hs; exact ⟨ps, rest, ht, rfl, rfl⟩  -- the owner is live
  next => cases hs  -- a dead or unknown handle: no step

/-! non-vacuity: a history with conversions, a clone and an explicit drop is well formed, and the
    theorem's conclusion is what the driver prints for it -/
example : (run St.init [.create 1, .convert 0, .clone 1, .create 3, .drop 1, .convert 3]).isSome = true := by decide
example : ((run St.init [.create 1, .convert 0, .clone 1, .create 3, .drop 1, .convert 3]).map
    fun s => (dropAll s).dropped) = some [0, 1, 2, 3, 4] := by decide
/-- the pre-fix behaviour of `From<DiplomatResult> for Result` dropped payload 0 twice (by the moved-from wrapper
    *and* by the new owner): such a drop log, `[0, 0]`, is not duplicate-free, which `never_dropped_twice` excludes
    for every run -/
example : ¬ ([0, 0] : List Nat).Nodup := by decide

end DiplomatModel.Props.C03
