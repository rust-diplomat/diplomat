/-
  C04 — Borrow edges keep alive everything a returned value may borrow from.

  `Reach g a x` ("x outlives a") is the reflexive-transitive closure of the declared and implied bounds;
  `allLonger` is the stack search of `LifetimeTransitivityIterator`; `visitParam` / `borrowMap` are the
  transcription of `BorrowingParamVisitor`.  Graphs, parameter lists and lifetime counts are unbounded.
-/
import DiplomatModel.Lemmas.Lifetimes
import DiplomatModel.Lemmas.JsArena
import DiplomatModel.Lemmas.OptMapM
namespace DiplomatModel.Props.C04
open DiplomatModel.Lifetimes

/-- `fuelFor g` is what `dfs_fuel` asks for at the start: one entry on the stack, every node of the graph still to do -/
theorem allLonger_fuel_enough (g : Graph) (a : Nat) : (dfs g (fuelFor g) [a] []).isSome = true :=
  dfs_fuel g _ [a] [] (List.range g.length) (fun _ hu _ => List.mem_range.mpr hu) (Nat.le_refl _)

/-- The search always terminates within its fuel and returns exactly the lifetimes that must outlive `a`
    under the recorded bounds (including `a` itself), whatever the graph — cycles included. -/
theorem allLonger_spec (g : Graph) (a x : Nat) : x ∈ allLonger g a ↔ Reach g a x := by
  obtain ⟨r, hr⟩ := Option.isSome_iff_exists.mp (allLonger_fuel_enough g a)
  unfold allLonger
  rw [hr]
  exact dfs_spec g (fuelFor g) a r hr x

/-- lifetime-carrying parameters are opaques, slices or structs, possibly optional (an invariant of lowering) -/
def WellKinded (p : Param) : Prop :=
  p.kind.unwrapOption = .opaque ∨ p.kind.unwrapOption = .slice ∨ p.kind.unwrapOption = .struct
  ∨ (∀ lt ∈ p.lts, lt = none)

/-- the analysis never reaches its `unreachable!` arm on such parameters -/
theorem visit_no_panic (longer : List Nat) (p : Param) (h : WellKinded p) : (visitParam longer p).isSome = true := by
  rcases h with h | h | h | h
  · obtain ⟨_, he, _⟩ := visitParam_nonstruct longer p (.inl h); rw [he]; rfl
  · obtain ⟨_, he, _⟩ := visitParam_nonstruct longer p (.inr h); rw [he]; rfl
  · obtain ⟨_, he, _⟩ := visitParam_struct longer p h 0; rw [he]; rfl
  · -- no named lifetime at all: nothing to look up in `longer`, whatever the kind
    have hany : ¬ p.lts.any (ltIn longer) = true := fun ha => by
      obtain ⟨l, hl, _⟩ := any_ltIn.mp ha
      cases h _ hl
    unfold visitParam
    split
    · rfl  -- a struct: a list of edges in any case
    · rw [if_neg hany]; rfl  -- any other kind: asked only when some lifetime is in `longer`

/-- **Exactness for opaque and slice parameters (optional or not).** The parameter gets an edge for output
    lifetime `L` iff its type mentions a lifetime that must outlive `L`. `'static` never produces an edge. -/
theorem nonstruct_edge_iff (g : Graph) (L : Nat) (p : Param)
    (hk : p.kind.unwrapOption = .opaque ∨ p.kind.unwrapOption = .slice) :
    ∃ es, visitParam (allLonger g L) p = some es ∧
      ((∃ e ∈ es, e.param = p.name) ↔ ∃ l, some l ∈ p.lts ∧ Reach g L l) := by
  simpa only [allLonger_spec] using visitParam_nonstruct (allLonger g L) p hk

/-- **Exactness for struct parameters.** A struct parameter gets one edge per lifetime slot `i` of its
    definition whose use-site lifetime must outlive `L` — no more, no fewer. -/
theorem struct_edge_iff (g : Graph) (L : Nat) (p : Param) (hk : p.kind.unwrapOption = .struct) (i : Nat) :
    ∃ es, visitParam (allLonger g L) p = some es ∧
      (⟨p.name, .structLt i⟩ ∈ es ↔ ∃ l, p.lts[i]? = some (some l) ∧ Reach g L l) := by
  simpa only [allLonger_spec] using visitParam_struct (allLonger g L) p hk i

/-- only lifetimes used by the return type get an entry, in increasing order, with their full longer-set -/
theorem borrowMap_keys (g : Graph) (used : List Nat) (ps : List Param) (m : List (Nat × List Nat × List Edge))
    (h : borrowMap g used ps = some m) : m.map (·.1) = used ∧ ∀ e ∈ m, e.2.1 = allLonger g e.1 := by
  unfold borrowMap at h
  induction used generalizing m with
  | nil => cases h; exact ⟨rfl, nofun⟩
  | cons u us ih =>
    obtain ⟨e, rest, he, hr, rfl⟩ := optMapM_cons.mp h
    obtain ⟨_, -, rfl⟩ := Option.map_eq_some_iff.mp he
    obtain ⟨h1, h2⟩ := ih rest hr
    exact ⟨congrArg (u :: ·) h1, List.forall_mem_cons.mpr ⟨rfl, h2⟩⟩

/-! non-vacuity: `fn f<'a, 'b: 'a>(&'b self, x: &'a [u8]) -> &'a Op`: both inputs are edges of `'a`
    (self because `'b: 'a`), a cycle `'a: 'b, 'b: 'a` terminates, `'static` gives nothing -/
def gEx : Graph := astGraph ⟨2, [(1, 0)], [.ref (some 1) (.named []), .other, .ref (some 0) (.named [])]⟩
example : allLonger gEx 0 = [1, 0] := by decide
example : edgesFor (allLonger gEx 0) [⟨"this", .opaque, [some 1]⟩, ⟨"x", .slice, [some 0]⟩, ⟨"s", .slice, [none]⟩]
    = some [⟨"this", .opaque⟩, ⟨"x", .slice⟩] := by decide
example : (allLonger (astGraph ⟨2, [(1, 0), (0, 1)], []⟩) 0).length = 2 := by decide

/-! ### borrowing structs nested in borrowing structs (`compute_for_struct_field`, the `_fieldsForLifetimeX` getters) -/

/-- **Exactly the inner definition lifetimes instantiated with `x`.** The getter of the outer struct for its lifetime
    `x` spreads, for a struct-typed field instantiated with `args`, the inner getter of definition lifetime `i` iff the
    `i`-th argument is `x` — also when `x` fills several positions (`Pair<'a, 'a>`) or the positions are crossed;
    a `'static` argument (`none`) never contributes. -/
theorem nested_field_exact (args : List (Option Nat)) (x i : Nat) :
    i ∈ fieldDefLts args x ↔ args[i]? = some (some x) := by
  unfold fieldDefLts
  simp only [List.mem_filterMap, List.mem_zipIdx_iff_getElem?, Prod.exists]
  constructor
  · rintro ⟨a, j, hj, h⟩
    split at h
    next ha => cases h; exact ha ▸ hj  -- the argument is `x`: its position is kept
    next => cases h  -- any other argument: dropped
  · intro h
    exact ⟨some x, i, h, if_pos rfl⟩

/-- … for every field of the struct: nothing that is borrowed under `x` through a nested struct is left out of the
    getter, and nothing else is put in -/
theorem nested_getter_exact (fields : List (String × List (Option Nat))) (x : Nat) (f : String) (i : Nat) :
    (f, i) ∈ nestedGetter fields x ↔ ∃ args, (f, args) ∈ fields ∧ args[i]? = some (some x) := by
  unfold nestedGetter
  simp only [List.mem_flatMap, List.mem_map, Prod.mk.injEq]
  constructor
  · rintro ⟨⟨g, args⟩, hmem, j, hj, rfl, rfl⟩
    exact ⟨args, hmem, (nested_field_exact args x j).mp hj⟩
  · rintro ⟨args, hmem, h⟩
    exact ⟨(f, args), hmem, i, (nested_field_exact args x i).mpr h, rfl, rfl⟩

example : nestedGetter [("pair", [some 1, some 0]), ("other", [some 0, some 0]), ("fixed", [none, some 1])] 0
    = [("pair", 1), ("other", 0), ("other", 1)] := by decide

open DiplomatModel.JsArena in
/-- **JS runtime: the buffer's owner is reachable from every edge array it was created for.**  The arena
    `CleanupArena.createWith(...edgeArrays)` returns is on each (non-null) array given — so whoever holds that array
    keeps the wasm buffer alive — in whatever state earlier calls left the arrays … -/
theorem arena_on_every_edge_array (s : St) (call : List (Option Nat)) (i : Nat)
    (hi : some i ∈ call) (hl : i < s.arrays.length) :
    ∃ l, (createWith s call).1.arrays[i]? = some l ∧ (createWith s call).2 ∈ l :=
  pushAll_mem s.arrays s.next call i hi hl

open DiplomatModel.JsArena in
/-- … and no later call takes it off again. -/
theorem arena_stays_on_edge_array (s : St) (call : List (Option Nat)) (later : List (List (Option Nat))) (i : Nat)
    (hi : some i ∈ call) (hl : i < s.arrays.length) :
    ∃ l, (runCalls (createWith s call).1 later).arrays[i]? = some l ∧ (createWith s call).2 ∈ l :=
  runCalls_keeps _ later i _ (arena_on_every_edge_array s call i hi hl)

open DiplomatModel.JsArena in
/-- two slice fields of one struct, the second one's list of arrays starting like the first one's -/
example : (runCalls ⟨[[], []], 0⟩ [[some 0], [some 0, some 1]]).arrays = [[0, 1], [1]] := by decide

end DiplomatModel.Props.C04
