/-
  C11 — Enum variants carry the same numeric value in Rust and in every binding.

  The lookups in tables with distinct keys are in `Lemmas/Enum.lean`.  `e.discs` is the discriminant list `ast::Enum::new` computes (tied to the
  code by correspondence and to rustc by the oracle); the `*ToFfi`/`*FromFfi` functions are the
  numeric meaning of the tables whose text is compared fragment-by-fragment with the real output.
-/
import DiplomatModel.Lemmas.Enum
namespace DiplomatModel.Props.C11
open DiplomatModel.EnumGen

/-- What rustc accepts: distinct discriminants, distinct variant names. -/
structure WF (e : EnumDef) : Prop where
  discsNodup : e.discs.Nodup
  namesNodup : e.names.Nodup

/-- rustc's rule for C-like enums: an explicit discriminant is itself, an implicit one is the
    previous plus one, the first implicit one is 0.  `discs` is exactly that rule. -/
theorem discs_spec (vs : List (Option Int)) :
    (discs vs).length = vs.length
    ∧ (∀ (i : Nat) (d : Int), vs[i]? = some (some d) → (discs vs)[i]? = some d)
    ∧ (vs[0]? = some none → (discs vs)[0]? = some 0)
    ∧ (∀ (i : Nat) (p : Int), vs[i + 1]? = some none → (discs vs)[i]? = some p → (discs vs)[i + 1]? = some (p + 1)) := by
  refine ⟨discsFrom_length _ _, fun i d h => ?_, fun h => ?_, fun i p h hp => ?_⟩
  · rw [discs, discsFrom_getElem?, h]; rfl  -- explicit
  · rw [discs, discsFrom_getElem?, h]; rfl  -- first and implicit: `discs` starts from `last = -1`
  · rw [discs, discsFrom_getElem?, h, List.getElem?_cons_succ, ← discs, hp]; rfl  -- implicit: one more than `discs[i] = p`

/-- The three copies of the contiguity test (js `gen_enum`, dart `is_contiguous_enum`, both `isContig`; Kotlin's
    `EnumVariants::new` folds it in, see `kotlin_fold_eq`) mean "every discriminant equals its position". -/
theorem contiguous_iff (ds : List Int) :
    isContig ds = true ↔ ∀ i (h : i < ds.length), ds[i] = (i : Int) := by
  simpa [isContig] using isContigFrom_iff 0 ds

/-- Kotlin's incremental fold equals the direct definition. -/
theorem kotlin_fold_eq (e : EnumDef) :
    ktVariants e =
      if isContig e.discs then .contiguous e.names
      else .nonContiguous (e.rows.map fun r => (wrapI32 r.2, r.1)) := by
  rw [ktVariants, ktFold_contig [] 0 e.rows rfl, rows_map_snd, rows_map_fst]
  rfl  -- the empty prefix contributes nothing

theorem i32_cast_safe (d : Int) (h : inI32 d) : wrapI32 d = d := by
  -- `d + 2^31` is already in `[0, 2^32)`, so `%` leaves it alone
  rw [wrapI32, Int.emod_eq_of_lt (by have := h.1; omega) (by have := h.2; omega), Int.add_sub_cancel]

/-- C: the constant printed for variant `i` is rustc's discriminant. -/
theorem to_ffi_c (e : EnumDef) (i : Nat) (hi : i < e.vars.length) : cToFfi e i = some (e.discs[i]'(hiD e i hi)) := by
  rw [cToFfi, rows_getElem? e i hi]; rfl

/-- C++: `Value` enumerator `i` has rustc's discriminant and `AsFFI` preserves it. -/
theorem to_ffi_cpp (e : EnumDef) (i : Nat) (hi : i < e.vars.length) : cppToFfi e i = some (e.discs[i]'(hiD e i hi)) := to_ffi_c e i hi

/-- C++: `FromFFI` of the discriminant Rust sends for variant `i` selects variant `i`. -/
theorem from_ffi_cpp (e : EnumDef) (i : Nat) (hi : i < e.vars.length) (wf : WF e) : cppFromFfi e (e.discs[i]'(hiD e i hi)) = some i := by
  have hr := rows_getElem? e i hi
  rw [cppFromFfi, if_pos]
  · exact rows_firstIdx_disc wf.discsNodup hr
  · exact List.any_eq_true.mpr ⟨_, List.mem_of_getElem? hr, beq_self_eq_true _⟩  -- the switch admits it: row `i` has it

/-- Dart: `index` / `_ffi`. -/
theorem to_ffi_dart (e : EnumDef) (i : Nat) (hi : i < e.vars.length) : dartToFfi e i = some (e.discs[i]'(hiD e i hi)) := by
  unfold dartToFfi
  split
  next hc => rw [if_pos (hiR e i hi), contig_getElem e hc i hi]  -- contiguous: `index`
  next => exact to_ffi_c e i hi  -- otherwise the `_ffi` switch

/-- Dart: `values[n]` / `firstWhere((v) => v._ffi == n)`. -/
theorem from_ffi_dart (e : EnumDef) (i : Nat) (hi : i < e.vars.length) (wf : WF e) : dartFromFfi e (e.discs[i]'(hiD e i hi)) = some i := by
  unfold dartFromFfi
  split
  next hc =>  -- contiguous: `values[n]`
    rw [contig_getElem e hc i hi, if_pos ⟨Int.natCast_nonneg i, by simpa using hiR e i hi⟩, Int.toNat_natCast]
  next => exact rows_firstIdx_disc wf.discsNodup (rows_getElem? e i hi)  -- otherwise `firstWhere`

/-- Kotlin: `toNative()` (`ordinal` or `inner`) is rustc's discriminant, for discriminants within i32. -/
theorem to_ffi_kotlin (e : EnumDef) (i : Nat) (hi : i < e.vars.length) (h32 : ∀ d ∈ e.discs, inI32 d) :
    ktToFfi (ktVariants e) i = some (e.discs[i]'(hiD e i hi)) := by
  rw [kotlin_fold_eq]
  split
  next hc => rw [ktToFfi, if_pos (hiN e i hi), contig_getElem e hc i hi]  -- contiguous: `ordinal`
  next =>  -- otherwise `inner`
    rw [ktToFfi, List.getElem?_map, rows_getElem? e i hi, Option.map_some, Option.map_some,
      i32_cast_safe _ (h32 _ (List.getElem_mem _))]

/-- Kotlin: `fromNative(n)` (`entries[n]` or `when`) selects the variant named like Rust's. -/
theorem from_ffi_kotlin (e : EnumDef) (i : Nat) (hi : i < e.vars.length) (wf : WF e) (h32 : ∀ d ∈ e.discs, inI32 d) :
    ktFromFfi (ktVariants e) (e.discs[i]'(hiD e i hi)) = some (e.names[i]'(hiN e i hi)) := by
  rw [kotlin_fold_eq]
  split
  next hc =>  -- contiguous: `entries[n]`
    rw [ktFromFfi, contig_getElem e hc i hi, if_pos (Int.natCast_nonneg i), Int.toNat_natCast,
      List.getElem?_eq_getElem (hiN e i hi)]
  next =>
    -- not contiguous: within i32 the cast is the identity, so the `when` is a lookup of the discriminant in `rows`
    have hw : ∀ r ∈ e.rows, (wrapI32 r.2, r.1) = (r.2, r.1) := fun r hr => by
      rw [i32_cast_safe _ (h32 _ (rows_map_snd e ▸ List.mem_map_of_mem hr))]
    rw [ktFromFfi, List.map_congr_left hw, List.find?_map]
    show ((e.rows.find? fun r => r.2 == _).map _).map _ = _
    rw [rows_find?_disc wf.discsNodup (rows_getElem? e i hi)]; rfl

/-- JS: `#objectValues[d]` for the discriminant of variant `i` is the object storing that discriminant. -/
theorem js_obj (e : EnumDef) (i : Nat) (hi : i < e.vars.length) (wf : WF e) :
    jsObj (jsEnum e) (e.discs[i]'(hiD e i hi)) = some (e.discs[i]'(hiD e i hi)) := by
  rw [jsObj, jsEnum_objVals, List.find?_map]
  show ((e.discs.find? fun d => id d == id _).map _).map _ = _
  rw [find?_nodup id (by rw [List.map_id]; exact wf.discsNodup) (List.getElem?_eq_getElem (hiD e i hi))]; rfl

/-- JS: the `ffiValue` of `static NAME_i` is rustc's discriminant. -/
theorem to_ffi_js (e : EnumDef) (i : Nat) (hi : i < e.vars.length) (wf : WF e) :
    jsToFfi (jsEnum e) i = some (e.discs[i]'(hiD e i hi)) := by
  show (e.rows[i]?.bind fun s => jsObj (jsEnum e) s.2) = _
  rw [rows_getElem? e i hi]
  exact js_obj e i hi wf

/-- JS: an object built from the discriminant Rust sends for variant `i` reports variant `i`'s name. -/
theorem from_ffi_js (e : EnumDef) (i : Nat) (hi : i < e.vars.length) (wf : WF e) :
    jsFromFfi (jsEnum e) (e.discs[i]'(hiD e i hi)) = some (e.names[i]'(hiN e i hi)) := by
  show ((jsObj (jsEnum e) _).bind fun stored => jsValueName (jsEnum e) stored) = _
  rw [js_obj e i hi wf, Option.bind_some]
  show (if isContig e.discs then _ else (e.rows.find? _).map _) = _
  split
  next hc =>  -- contiguous: the stored value is the position in `values`
    rw [contig_getElem e hc i hi, if_pos (Int.natCast_nonneg i), Int.toNat_natCast]
    exact congrArg (Option.map _) (rows_getElem? e i hi)
  next => exact congrArg (Option.map _) (rows_find?_disc wf.discsNodup (rows_getElem? e i hi))  -- otherwise it is looked up

/-- nanobind: the Python enumerator named like variant `i` is bound to the C++ enumerator with
    rustc's discriminant. -/
theorem to_ffi_python (e : EnumDef) (i : Nat) (hi : i < e.vars.length) (wf : WF e) : pyToFfi e i = some (e.discs[i]'(hiD e i hi)) := by
  show (e.names[i]?.bind fun n => (e.rows.find? fun r => r.1 == n).map (·.2)) = _
  rw [List.getElem?_eq_getElem (hiN e i hi), Option.bind_some]
  exact congrArg (Option.map _) (rows_find?_name wf.namesNodup (rows_getElem? e i hi))

/-! Non-vacuity: a concrete enum with explicit, negative, non-monotonic and implicit discriminants
    meets the hypotheses, and the statements compute to what rustc prints for it. -/
def sample : EnumDef := { name := "En", vars := [("Va", some 1), ("Vb", none), ("Vc", some (-3)), ("Vd", none)] }
example : sample.discs = [1, 2, -3, -2] := by decide
example : WF sample := ⟨by decide, by decide⟩
example : ∀ d ∈ sample.discs, inI32 d := by decide
example : isContig sample.discs = false := by decide
example : ktFromFfi (ktVariants sample) (-3) = some "Vc" := by decide
example : jsFromFfi (jsEnum sample) (-2) = some "Vd" := by decide

end DiplomatModel.Props.C11
