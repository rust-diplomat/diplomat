/-
  C12 — String output through DiplomatWrite is exact and never overruns its buffer.

  Quantifiers: every chunk list, every script of `grow` answers (each answer either a refusal or a
  capacity of at least the requested size — the documented contract), every initial capacity.
-/
import DiplomatModel.Lemmas.Write
import DiplomatModel.Generated.RuntimeTypes
import DiplomatModel.Lemmas.CppStr
namespace DiplomatModel.Props.C12
open DiplomatModel.Write DiplomatModel.Abi DiplomatModel.Generated.RuntimeTypes

/-- The buffer finally holds exactly the concatenation of the chunks written before the first failed
    growth — whole chunks only — and once a growth fails every later write is a no-op. -/
theorem content_exact (d : Option Nat) (w : W) (cs : List (List Nat)) (gs : List (Option Nat))
    (hi : Inv w) (hs : StoresOk w) :
    ∃ k, k ≤ cs.length
      ∧ (run d w cs gs).2 = List.replicate k true ++ List.replicate (cs.length - k) false
      ∧ contents (run d w cs gs).1 = contents w ++ (cs.take k).flatten
      ∧ (k < cs.length → (run d w cs gs).1.failed = true) :=
  run_spec d w cs gs hi

/-- No byte beyond the current capacity is ever stored to. -/
theorem in_bounds (d : Option Nat) (w : W) (cs : List (List Nat)) (gs : List (Option Nat))
    (hi : Inv w) (hs : StoresOk w) :
    ∀ e ∈ (run d w cs gs).1.stores, e.1 < e.2 :=
  run_stores d w cs gs hs

theorem len_le_cap (d : Option Nat) (w : W) (cs : List (List Nat)) (gs : List (Option Nat))
    (hi : Inv w) (hs : StoresOk w) :
    (run d w cs gs).1.len ≤ (run d w cs gs).1.cap :=
  (inv_run d w cs gs hi).lenCap

/-- Failure is sticky: a failed writer ignores every further write … -/
theorem sticky (d : Option Nat) (w : W) (cs : List (List Nat)) (gs : List (Option Nat))
    (hf : w.failed = true) : run d w cs gs = (w, List.replicate cs.length false) :=
  run_failed d w cs gs hf

/-- … and is reported as (null, 0) by the buffer accessors. -/
theorem failed_accessors (w : W) (hf : w.failed = true) : accessors w = (true, 0) := by
  simp [accessors, hf]

theorem ok_accessors (w : W) (hf : w.failed = false) : accessors w = (false, w.len) := by
  simp [accessors, hf]

/-- A fixed-size writer over a caller buffer of `size ≥ 1` bytes: its `flush` stores the NUL inside
    the caller's buffer, right after the written text. -/
theorem simple_flush_in_buffer (size : Nat) (hsz : 1 ≤ size) (cs : List (List Nat)) :
    let w := (run none (simpleInit size) cs []).1
    w.len < size ∧ w.buf.length = size
      ∧ (simpleFlush w).buf.take (w.len + 1) = contents w ++ [0]
      ∧ ∀ e ∈ (simpleFlush w).stores, e.1 < e.2 := by
  intro w
  have hi : Inv (simpleInit size) := ⟨Nat.zero_le _, by simp [simpleInit]⟩
  -- `cap = size - 1` and the physical size never change, so `len ≤ cap` leaves room for the NUL
  obtain ⟨hcap, hphys⟩ := run_nogrow (d := none) (gs := []) (fun _ => List.mem_singleton.mp) (simpleInit size) cs
  have hlen : w.buf.length = size := hphys.trans List.length_replicate
  have hl : w.len < size := calc
    w.len ≤ w.cap := (inv_run none _ cs [] hi).lenCap
    _ = size - 1 := hcap
    _ < size := Nat.sub_lt hsz Nat.one_pos
  have hlt : w.len < w.buf.length := hlen ▸ hl
  refine ⟨hl, hlen, take_set_succ w.buf w.len 0 hlt, ?_⟩
  -- the stores of the run, then the one `simpleFlush` adds: at `len`, in a buffer of `buf.length` bytes
  show ∀ e ∈ w.stores ++ [(w.len, w.buf.length)], e.1 < e.2
  exact List.forall_mem_append.mpr ⟨run_stores none _ cs [] (storesOk_of_nil rfl), List.forall_mem_singleton.mpr hlt⟩

/-- C++: `WriteFromString(s)` (grow = `resize(requested)`, never fails) ends with `s ++ chunks`. -/
theorem cpp_string_exact (init : List Nat) (cs : List (List Nat)) :
    contents (run (some 0) (foreignInit init init.length) cs []).1 = init ++ cs.flatten := by
  rw [(run_infallible (d := some 0) (gs := []) (by simp) _ cs (inv_foreignInit init _ (Nat.le_refl _)) rfl).1,
    contents_foreignInit]

/-- Rust-owned buffer writer (`Vec::reserve` never refuses): everything written is there. -/
theorem rust_buffer_exact (cap extra : Nat) (cs : List (List Nat)) :
    contents (run (some extra) (foreignInit [] cap) cs []).1 = cs.flatten
      ∧ (run (some extra) (foreignInit [] cap) cs []).1.failed = false := by
  have h := run_infallible (d := some extra) (gs := []) (by simp) _ cs (inv_foreignInit [] cap (Nat.zero_le _)) rfl
  rwa [contents_foreignInit, List.nil_append] at h

/-- The C header's `DiplomatWrite` has the same fields, in the same order, with the same ABI slots
    and callback signatures as the `#[repr(C)]` Rust struct.  Both tables are regenerated from the
    source on every run. -/
theorem write_struct_agrees : rtWriteReprC = true ∧ layoutOf rtWriteFields = layoutOf cWriteFields :=
  ⟨rfl, rfl⟩

/-! non-vacuity -/
example : Inv (foreignInit [104, 105] 4) ∧ StoresOk (foreignInit [104, 105] 4) :=
  ⟨inv_foreignInit _ _ (by decide), storesOk_of_nil rfl⟩
example : (run none (foreignInit [] 4) [[104, 105], [1, 2, 3], [9], [7, 7]] [some 2, none]).2
    = [true, true, true, false] := by decide
example : contents (run none (foreignInit [] 4) [[104, 105], [1, 2, 3], [9], [7, 7]] [some 2, none]).1
    = [104, 105, 1, 2, 3, 9] := by decide

open DiplomatModel.CppStr in
/-- **C++ `std::string` adaptor, flushes anywhere**: whatever sequence of writes and flushes Rust performs through
    `WriteFromString(s)` — a method may flush in the middle, one writer may serve several calls — the string ends as
    `s` followed by everything written, nothing was stored outside the string, and the window advertised to Rust is
    exactly the string after every step. -/
theorem cpp_string_exact_with_flushes (init : List Nat) (ops : List Op) :
    (run init ops).str = init ++ written ops
    ∧ (run init ops).oob = false
    ∧ (run init ops).len = (run init ops).str.length ∧ (run init ops).cap = (run init ops).str.length
    ∧ (step (run init ops) .flush).str = init ++ written ops := by
  have h := run_inv init ops
  exact ⟨h.content, h.noOob, h.lenCap.trans h.capStr, h.capStr, by rw [step_flush _ h.lenCap h.capStr]; exact h.content⟩

open DiplomatModel.CppStr in
example : (step (run [104, 105] [.write [33], .flush, .write [], .write [63, 63], .flush]) .flush).str = [104, 105, 33, 63, 63] := by decide

end DiplomatModel.Props.C12
