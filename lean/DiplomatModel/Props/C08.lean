/-
  C08 — JS bindings read and write structs with the real wasm32 repr(C) layout (PARTIAL: layout part).

  Proved here for field lists of any length and any positive alignments: the offsets, size and alignment
  computed by `struct_field_info` are *the* repr(C) layout (aligned, ordered, non-overlapping, minimal
  gaps; size = least multiple of the maximal alignment covering the last field).  Over that layout: writing
  every field at its offset and reading it back there returns the field, the typed padding fields fill every
  gap, and the flattened ("padded direct") argument list covers the struct.  That the generated
  `_writeToArrayBuffer` / `_fromFFI` / `_intoFFI` do these writes, reads and spreads is tied textually and by
  the rustc oracle only (see DESIGN.md).
-/
import DiplomatModel.Lemmas.JsLayout
import DiplomatModel.Lemmas.Memory
import DiplomatModel.Lemmas.Slots
namespace DiplomatModel.Props.C08
open DiplomatModel.JsLayout DiplomatModel.Memory

/-- **Field placement is repr(C).** Each offset is a multiple of its field's alignment, fields keep their
    order without overlapping, and every gap is smaller than the alignment that caused it.  (`hne` is not
    used: the empty struct has no offsets.) -/
theorem layout_is_reprC (fs : List (Nat × Nat × SC)) (hne : fs ≠ []) (hpos : ∀ f ∈ fs, 0 < f.2.1) :
    Good fs ((fieldInfoOf fs).fields.map (·.offset)) 0 := by
  rw [fieldInfoOf_offsets]
  exact offsetsFrom_good fs hpos 0

/-- **Struct alignment** is the largest field alignment (`hpos` is not used) … -/
theorem align_is_max (fs : List (Nat × Nat × SC)) (hne : fs ≠ []) (hpos : ∀ f ∈ fs, 0 < f.2.1) :
    (∀ f ∈ fs, f.2.1 ≤ (fieldInfoOf fs).align) ∧ (∃ f ∈ fs, (fieldInfoOf fs).align = f.2.1) :=
  have ⟨_, hge⟩ := List.max?_eq_some_iff.mp (fieldInfoOf_align hne)
  ⟨fun _ hf => hge _ (List.mem_map_of_mem hf), fieldInfoOf_align_mem hne⟩

/-- … and **struct size** is the least multiple of that alignment that covers the last field. -/
theorem size_is_rounded_end (fs : List (Nat × Nat × SC)) (hne : fs ≠ []) (hpos : ∀ f ∈ fs, 0 < f.2.1) :
    (fieldInfoOf fs).size % (fieldInfoOf fs).align = 0 ∧ endFrom 0 fs ≤ (fieldInfoOf fs).size
      ∧ (fieldInfoOf fs).size - endFrom 0 fs < (fieldInfoOf fs).align := by
  refine ⟨fieldInfoOf_size_mod hne hpos, endFrom_le_size fs, ?_⟩
  rw [fieldInfoOf_size hne, Nat.add_sub_cancel_left]
  exact padTo_lt _ (fieldInfoOf_align_pos hne hpos)

/-- an empty struct is given the size and alignment of a pointer (what the code calls `unit_size_alignment`) -/
theorem empty_struct : (fieldInfoOf []).size = 4 ∧ (fieldInfoOf []).align = 4 ∧ (fieldInfoOf []).fields = [] :=
  ⟨rfl, rfl, rfl⟩

/-- `DiplomatOption<T>` occupies `size T + align T` bytes at `T`'s alignment and is never passed as scalars -/
theorem option_layout (t : LTy) (size align : Nat) (sc : SC) (h : layoutOf t = some (size, align, sc)) (hz : sc ≠ .zst) :
    layoutOf (.opt t) = some (size + align, align, .memory) :=
  layoutOf_opt.mpr ⟨size, sc, h, hz, rfl, rfl⟩

/-! non-vacuity: `struct { a: u8, b: u64, c: In{u8,u16}, d: DiplomatOption<u16>, e: &Op, f: &str, g: Enum, h: bool }` -/
example : (structFieldInfo [.scalar 1 1, .scalar 8 8, .struct [.scalar 1 1, .scalar 2 2], .opt (.scalar 2 2),
    .scalar 4 4, .slice, .scalar 4 4, .scalar 1 1]).map (fun i => (i.fields.map (·.offset), i.size, i.align))
    = some ([0, 8, 16, 20, 24, 28, 36, 40], 48, 8) := by decide +kernel

/-! ### the generated read / write / flatten code (tool/src/js/gen.rs, converter.rs) -/

/-- **Where the generated JS looks for an option's flag.** `readOption(wasm, ptr, N, …)` reads the flag byte at
    `ptr + N`, and the generator passes `N = size of the payload`.  In the `#[repr(C)]` layout of
    `DiplomatOption<T>` = `{ union { T }, bool }` the flag's offset is exactly that size (for any payload whose
    size is a multiple of its alignment, as every laid-out type's is), and the whole option is `size + align`. -/
theorem option_flag_offset (size align : Nat) (sc : SC) (ha : 0 < align) (hm : size % align = 0) :
    ((fieldInfoOf [(size, align, sc), (1, 1, .scalars 1)]).fields.map (·.offset)) = [0, size]
    ∧ (fieldInfoOf [(size, align, sc), (1, 1, .scalars 1)]).size = size + align := by
  have h1 : padTo size 1 = 0 := padTo_of_mod_zero (Nat.mod_one _)
  constructor
  · rw [fieldInfoOf_offsets]
    simp [offsetsFrom, padTo_zero, h1]
  · -- the flag ends at `size + 1`; `align - 1` more bytes reach the next multiple of `align`
    have hend : size + 1 + (align - 1) = size + align := by rw [Nat.add_assoc, Nat.add_sub_cancel' ha]
    have hpad : padTo (size + 1) align = align - 1 :=
      padTo_unique (Nat.sub_lt ha Nat.one_pos) (by rw [hend, Nat.add_mod_right, hm])
    have hal : (fieldInfoOf [(size, align, sc), (1, 1, .scalars 1)]).align = align :=
      Option.some.inj ((fieldInfoOf_align (List.cons_ne_nil _ _)).symm.trans (congrArg some (Nat.max_eq_left ha)))
    rw [fieldInfoOf_size (List.cons_ne_nil _ _), hal]
    simp only [endFrom, padTo_zero, h1, hpad, Nat.add_zero, Nat.zero_add]
    exact hend

/-- **When a nested struct is flattened with its padding.** The generator forces padding for a field exactly when
    the field is a struct with two transitive scalars inside a struct with three or more; it lets the caller
    decide exactly when both have two; everything else is flattened as it is (`docs/wasm_abi_quirks.md`:
    an aggregate of more than two scalars is passed "padded direct", including the padding of nested pairs). -/
theorem force_padding_iff (f w : SC) (isStruct : Bool) :
    (forcePadding f w isStruct = .force ↔ isStruct = true ∧ f = .scalars 2 ∧ ∃ n, w = .scalars n ∧ 3 ≤ n)
    ∧ (forcePadding f w isStruct = .passThrough ↔ isStruct = true ∧ f = .scalars 2 ∧ w = .scalars 2) := by
  rw [← atLeast3_iff]
  fun_cases forcePadding f w isStruct with
  | case1 h => rcases h with rfl | rfl <;> simp  -- the field has no or one scalar: no padding needed
  | case2 _ h => simp [h]  -- the field is not a struct
  | case3 _ _ h => obtain ⟨rfl, rfl⟩ := h; simp_all [atLeast3]  -- two scalars in a struct of two: `.passThrough`
  | case4 => simp_all  -- two scalars in a struct of three or more: `.force`
  | case5 => simp_all  -- anything else

/-- The recorded observation F32: an outer struct that contains a `DiplomatOption` has the "memory" scalar count,
    for which the decision is *not* to force padding, although such a struct is certainly not passed as two scalars. -/
example : forcePadding (.scalars 2) .memory true = .noForce := by decide

example : jsFrags [.struct [.scalar 1 1, .scalar 4 4], .scalar 2 2, .opt (.scalar 2 2)] false
    = some ["this.#f0)._intoFFI(functionCleanupArena, {})",
            "diplomatRuntime.optionToArgsForCalling(this.#f2, 2, 2,",
            "/* [1 x i16] padding */",
            "diplomatRuntime.writeOptionToArrayBuffer(arrayBuffer, offset + 10, this.#f2, 2, 2,",
            "diplomatRuntime.readOption(wasm, f2Deref, 2,"] := by decide +kernel

/-- **Write / read round trip over the computed layout.** Take any non-empty struct (positive alignments), any
    memory, and for every field a byte string of the field's size.  Writing each field's bytes at the offset
    `struct_field_info` computes (what `_writeToArrayBuffer` does with `offset + N`) and then reading each field
    back at that offset over its size (what `_fromFFI` does with `ptr + N`) returns exactly the bytes written for
    that field: later fields never overwrite earlier ones, because the running offsets only grow
    (`offsetsFrom_ordered`) — whatever the alignments, for no field at all, and for fewer or more values than
    fields, so `hne`, `hpos` and `hl` are not used. -/
theorem write_read_roundtrip (fs : List (Nat × Nat × SC)) (hne : fs ≠ []) (hpos : ∀ f ∈ fs, 0 < f.2.1)
    (vals : List (List Nat)) (hl : vals.length = fs.length)
    (hs : ∀ i (h1 : i < fs.length) (h2 : i < vals.length), (vals[i]'h2).length = (fs[i]'h1).1) (m : Mem) :
    ∀ f ∈ ((fieldInfoOf fs).fields.map (·.offset)).zip vals,
      readAt (writeFields m (((fieldInfoOf fs).fields.map (·.offset)).zip vals)) f.1 f.2.length = f.2 := by
  rw [fieldInfoOf_offsets]
  exact read_after_writeFields m _ 0 (offsetsFrom_ordered fs vals 0 hs)

example : readAt (writeFields (fun _ => 0xAA) [(0, [1]), (4, [2, 3, 4, 5]), (8, [6, 7])]) 4 4 = [2, 3, 4, 5] := by decide

/-! ### the flattened argument list (legacy ABI, "padded direct") -/

/-- **Typed padding accounts for every gap.** In one struct, the field sizes plus the padding fields
    `struct_field_info` attaches to them (`padding_count` fields of `padding_field_width` bytes each) add up to the
    struct's size — for every field list whose alignments are powers of two and whose sizes are multiples of them.
    (The count is an integer division of the gap by the previous field's alignment; the theorem shows it never
    truncates.) -/
theorem typed_padding_fills_gaps (ls : List (Nat × Nat × SC)) (hne : ls ≠ [])
    (hwf : ∀ f ∈ ls, Pow2 f.2.1 ∧ f.2.1 ∣ f.1) :
    sizeSum ls + padSum (fieldInfoOf ls).fields = (fieldInfoOf ls).size :=
  tile_one_level ls hne hwf

/-- **The padded-direct argument list covers the whole struct.** For a struct `fs` (nested to any depth, with
    options, slices and scalars of power-of-two alignment) whose padding is emitted at every level (`padOKList`:
    a two-scalar struct emits its padding only when its caller forces it), the widths of the slots `_intoFFI`
    spreads into the call — leaves, typed padding zeros, option chunks, option flags — add up to the struct's size:
    every byte of the `repr(C)` value is represented in the call exactly once, as the LLVM aggregate type
    (fields and padding arrays) requires. -/
theorem arg_slots_tile (fs : List LTy) (force : Bool) (info : Info) (ls : List (Nat × Nat × SC)) (sl : List Slot)
    (hne : fs ≠ []) (hwf : WFList fs) (hi : structFieldInfo fs = some info) (hls : layoutList fs = some ls)
    (hp : info.sc ≠ .scalars 2 ∨ force = true) (hok : padOKList fs ls info.sc force = true)
    (hs : argSlots fs force = some sl) :
    slotsWidth sl = info.size := by
  obtain rfl : fieldInfoOf ls = info := Option.some.inj ((structFieldInfo_eq hls).symm.trans hi)
  simp only [argSlots, hi, hls] at hs
  -- the slots of the fields fill the fields and their padding; fields and padding fill the struct
  rw [fieldsSlots_tile hwf hok hp hls (fieldInfoOf_fields_length ls) hs]
  exact tile_one_level ls (layoutList_ne hls hne) (layoutList_wf hwf hls)

/-- non-vacuity: `struct { a: Pair{u8,u32}, b: u16, d: u64 }` meets the premises -/
example : padOKList [.struct [.scalar 1 1, .scalar 4 4], .scalar 2 2, .scalar 8 8]
    [(8, 4, .scalars 2), (2, 2, .scalars 1), (8, 8, .scalars 1)] (.scalars 4) false = true := by decide
example : argSlots [.struct [.scalar 1 1, .scalar 4 4], .scalar 2 2, .scalar 8 8] false
    = some [.leaf 1, .pad 1, .pad 1, .pad 1, .leaf 4, .leaf 2, .pad 2, .pad 2, .pad 2, .leaf 8] := by decide +kernel

/-- **Finding F32 (witness).** A two-scalar struct next to a `DiplomatOption` field: the parent's scalar count is
    "memory", for which `forcePadding` answers `noForce`, so the pair is spread *without* its three padding bytes and
    the argument list no longer covers the struct (13 bytes of slots for a 16-byte value), although a struct holding
    a union is always passed in the padded form (docs/wasm_abi_quirks.md, "Unions in parameters"). -/
example : argSlots [.struct [.scalar 1 1, .scalar 4 4], .opt (.scalar 4 4)] false
    = some [.leaf 1, .leaf 4, .chunk 4, .flag, .pad 1, .pad 1, .pad 1] := by decide +kernel
example : (structFieldInfo [.struct [.scalar 1 1, .scalar 4 4], .opt (.scalar 4 4)]).map (·.size) = some 16 := by decide
example : padOKList [.struct [.scalar 1 1, .scalar 4 4], .opt (.scalar 4 4)]
    [(8, 4, .scalars 2), (8, 4, .memory)] .memory false = false := by decide

end DiplomatModel.Props.C08
