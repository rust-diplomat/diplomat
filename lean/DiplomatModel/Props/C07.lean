/-
  C07 — Dart and Kotlin native declarations match each function's and struct's C ABI.

  The C ABI of a declaration is C01's `cAbi ∘ cTy` (tied to the real C header and proved equal to the Rust
  `extern "C"` signature there).  Here: the primitive tables of the Dart and Kotlin formatters (regenerated
  from the source on every run) give, through the documented meaning of dart:ffi / JNA type names, the same
  width, signedness and float kind as the C type; the generators' parameter types have the C parameter's
  wire description — pointer vs by-value, record shapes.

  The full statement is FALSE for three Kotlin rows on the unchanged tree (recorded findings, see below);
  the theorem is proved for all other rows and the three rows are exhibited as witnesses.
-/
import DiplomatModel.DartKt
import DiplomatModel.Props.C01
import DiplomatModel.KtNative
import DiplomatModel.Lemmas.Cpp
namespace DiplomatModel.Props.C07
open DiplomatModel.Lower DiplomatModel.AbiGen DiplomatModel.DartKt DiplomatModel.Props.C05 DiplomatModel.Props.C01

/-- **Dart.** Every primitive's dart:ffi annotation has the Rust primitive's width, signedness, float kind. -/
theorem dart_prim_agree (p : Prim) (h : is128 p = false) :
    (dartPrim p).bind dartFfiAbi = some (rustPrimAbi p) := by
  revert p; exact forall_prim (by decide +kernel)

/-- … hence the C type's (C01's primitive theorem). -/
theorem dart_prim_matches_c (p : Prim) (h : is128 p = false) :
    (dartPrim p).bind dartFfiAbi = (cPrimName p).bind cNameAbi := by
  rw [dart_prim_agree p h, prim_abi_agree p h]

/-- **Kotlin** (partial). Every primitive except `bool`, `DiplomatChar`, `DiplomatByte` has a JNA type of the
    Rust primitive's width and signedness. -/
theorem kt_prim_agree_partial (p : Prim) (h : is128 p = false) (hk : ktMismatch p = false) :
    (ktPrim p).bind jnaAbi = some (rustPrimAbi p) := by
  revert p; exact forall_prim (by decide +kernel)

theorem kt_prim_matches_c_partial (p : Prim) (h : is128 p = false) (hk : ktMismatch p = false) :
    (ktPrim p).bind jnaAbi = (cPrimName p).bind cNameAbi := by
  rw [kt_prim_agree_partial p h hk, prim_abi_agree p h]

/-- The three excluded rows really differ (so the exclusion is not a convenience): JNA passes a Kotlin
    `Boolean` as a 32-bit `int` where C has an 8-bit `bool`; `DiplomatChar` (u32) is declared `Int` (signed);
    `DiplomatByte` (u8) is declared `Byte` (signed).  Widths agree for the last two, signedness does not. -/
theorem kt_prim_mismatch_rows :
    (ktPrim .bool).bind jnaAbi = some [.int 32 true] ∧ rustPrimAbi .bool = [.bool]
    ∧ (ktPrim .char).bind jnaAbi = some [.int 32 true] ∧ rustPrimAbi .char = [.int 32 false]
    ∧ (ktPrim .byte).bind jnaAbi = some [.int 8 true] ∧ rustPrimAbi .byte = [.int 8 false] := by
  decide +kernel

theorem dartPrim_abi {p : Prim} {f : String} (h : is128 p = false) (hf : dartPrim p = some f) :
    dartFfiAbi f = some (rustPrimAbi p) := by
  simpa [hf] using dart_prim_agree p h

theorem sameWire_refl (a : Option Abi) : sameWire a a = true := beq_self_eq_true _

theorem dartParamTy_abi {env : Env} {t : TyName} {d : DTy} (hd : dartParamTy env t = some d)
    (hc : (cTy env t).isSome = true) (h128 : has128 t = false) :
    sameWire (some (abiOf env t)) (dAbiSimple d) = true := by
  -- along `dartParamTy`: a shape without a Dart type, or (the write buffer) without a C type, does not arise
  revert hd
  fun_cases dartParamTy env t <;> intro hd
  all_goals try contradiction
  case case1 p =>  -- a primitive
    obtain ⟨f, hf, rfl⟩ := Option.map_eq_some_iff.mp hd
    simp [sameWire, abiOf, dAbiSimple, dartPrim_abi h128 hf]
  case case3 => cases hd; simp only [abiOf, *]; rfl  -- an enum: `Int32` is how `sameWire` reads a C enum
  -- structs, pointers, strings: Dart's description is C's, token for token
  all_goals
    cases hd
    simp only [abiOf, dAbiSimple, *]
    exact sameWire_refl _

/-- **Dart parameters** (for the modelled part of the grammar: primitives, enums, structs by value, opaque
    references, optional opaque references, strings, the write buffer). The native parameter type has the C
    parameter's wire description: same scalar, a pointer where C has a pointer, the struct by value where C
    passes it by value, `{pointer, size}` for strings. -/
theorem dart_param_agree_partial (env : Env) (sup : Support) (t : TyName)
    (h : InOk env sup false t) (h128 : has128 t = false)
    (hm : ∃ d, dartParamTy env t = some d) :
    ∃ d c, dartParamTy env t = some d ∧ cTy env t = some c ∧ sameWire (cAbi c) (dAbiSimple d) = true := by
  obtain ⟨d, hd⟩ := hm
  have hs := (inOk_cTy h (by rintro ps r rfl; cases hd) h128).1
  obtain ⟨c, hc⟩ := Option.isSome_iff_exists.mp hs
  exact ⟨d, c, hd, hc, cAbi_of_simple (cTy_abi hc h128) ▸ dartParamTy_abi hd hs h128⟩

theorem ktParamTy_abi {env : Env} {t : TyName} {d : KTy} (hd : ktParamTy env t = some d)
    (hc : (cTy env t).isSome = true) (h128 : has128 t = false) (hk : ∀ p, t = .prim p → ktMismatch p = false) :
    sameWire (some (abiOf env t)) (kAbiSimple d) = true := by
  revert hd
  fun_cases ktParamTy env t <;> intro hd
  all_goals try contradiction
  case case1 p =>  -- a primitive
    obtain ⟨f, hf, rfl⟩ := Option.map_eq_some_iff.mp hd
    have hfa : jnaAbi f = some (rustPrimAbi p) := by simpa [hf] using kt_prim_agree_partial p h128 (hk p rfl)
    simp [sameWire, abiOf, kAbiSimple, hfa]
  case case3 => cases hd; simp only [abiOf, *]; rfl  -- an enum: `Int` is how `sameWire` reads a C enum
  -- structs, pointers, slices: Kotlin's description is C's, token for token
  all_goals
    cases hd
    simp only [abiOf, kAbiSimple, *]
    exact sameWire_refl _

/-- **Kotlin parameters** (modelled part: primitives other than the three recorded rows, enums, structs by
    value, opaque references, optional opaque references, all slices and strings, the write buffer). -/
theorem kt_param_agree_partial (env : Env) (sup : Support) (t : TyName)
    (h : InOk env sup false t) (h128 : has128 t = false)
    (hk : ∀ p, t = .prim p → ktMismatch p = false)
    (hm : ∃ d, ktParamTy env t = some d) :
    ∃ d c, ktParamTy env t = some d ∧ cTy env t = some c ∧ sameWire (cAbi c) (kAbiSimple d) = true := by
  obtain ⟨d, hd⟩ := hm
  have hs := (inOk_cTy h (by rintro ps r rfl; cases hd) h128).1
  obtain ⟨c, hc⟩ := Option.isSome_iff_exists.mp hs
  exact ⟨d, c, hd, hc, cAbi_of_simple (cTy_abi hc h128) ▸ ktParamTy_abi hd hs h128 hk⟩

theorem dartTy_abi {env : Env} {t : TyName} {d : NTy} (hd : dartTy env t = some d) (h128 : has128 t = false) :
    sameWire (some (abiOf env t)) (nAbi d) = true := by
  revert hd
  fun_cases dartTy env t <;> intro hd
  all_goals try contradiction
  -- primitives, `Ordering` and optional primitives go through the regenerated table
  case case1 p =>  -- a primitive
    obtain ⟨f, hf, rfl⟩ := Option.map_eq_some_iff.mp hd
    simp [sameWire, abiOf, nAbi, nAbiSimple, dartPrim_abi h128 hf]
  case case2 =>  -- `Ordering`, an `i8`
    obtain ⟨f, hf, rfl⟩ := Option.map_eq_some_iff.mp hd
    simp [sameWire, abiOf, nAbi, nAbiSimple, dartPrim_abi rfl hf, rustPrimAbi]
  case case14 sd p =>  -- `Option<prim>`
    obtain ⟨f, hf, rfl⟩ := Option.map_eq_some_iff.mp hd
    simp [sameWire, abiOf, nAbi, nArmAbi, nAbiSimple, dartPrim_abi h128 hf]
  -- enums (and options of them): Dart's `Int32` is how `sameWire` reads a C enum
  case case4 | case16 =>
    cases hd
    simp only [abiOf, *]
    rfl
  -- slices (and options of them): whatever name the table gives, the record is `{pointer, length}`
  case case18 | case19 | case20 | case22 | case23 | case24 =>
    obtain ⟨nm, -, rfl⟩ := Option.map_eq_some_iff.mp hd
    exact sameWire_refl _
  -- structs and pointers (and options of them): Dart's description is C's, token for token
  all_goals
    cases hd
    simp only [abiOf, nAbi, nArmAbi, nAbiSimple, List.append_nil, Option.map_some, *]
    exact sameWire_refl _

/-- Dart's and C's types for one accepted position describe the same thing on the wire. Stated for *every* type
    for which both generators produce a type (no gate hypothesis needed): primitives, enums (a C enum read as a
    32-bit integer), structs by value, opaque pointers (optional or not, borrowed or owned), all slices and
    strings, and optionals of non-pointers as `{union{T}, bool}` records. -/
theorem dart_ty_agree (env : Env) (t : TyName) (c : CTy) (d : NTy) (h128 : has128 t = false)
    (hc : cTy env t = some c) (hd : dartTy env t = some d) :
    sameWire (cAbi c) (nAbi d) = true :=
  cAbi_of_simple (cTy_abi hc h128) ▸ dartTy_abi hd h128

/-! ### non-vacuity -/
example : (dartParamTy C01.envEx (.ref .anon false (.named "Op"))).isSome = true
    ∧ inErrs C01.envEx C01.supEx false (.ref .anon false (.named "Op")) = [] := by decide
example : (dartPrim .u16).bind dartFfiAbi = some [.int 16 false] ∧ (ktPrim .u16).bind jnaAbi = some [.int 16 false] := by
  decide +kernel

/-! ### Kotlin: the JNA declaration (`KtNative`, exact-text tie `kotlin-native-signature`) -/

open DiplomatModel.KtNative DiplomatModel.CppMethod in
/-- **Same parameter count and order as the C function.** With at most one `DiplomatWrite` parameter, the JNA
    declaration lists exactly as many parameters as the C prototype of C01's model: the receiver first, one per
    parameter in order, the write buffer last. -/
theorem kt_native_arity (env : Env) (pfx owner : String) (m : AMethod) (ks : List String) (ps : List (String × CTy))
    (hw : (m.params.filter fun p => match p.2 with | .write => true | _ => false).length ≤ 1)
    (hk : ktNativeParams env owner m = some ks) (hc : cParams env pfx owner m = some ps) :
    ks.length = ps.length := by
  rw [ktNativeParams_length hk, cParams_length hc, ← params_split m hw, Nat.add_assoc]

open DiplomatModel.KtNative in
/-- a returned `bool` is declared `Byte` (one byte, as C's `bool`), every other returned primitive as in parameters -/
theorem kt_native_ret_prim (p : Prim) : ktPrimNative p = if p = .bool then some "Byte" else ktPrim p := by
  cases p <;> rfl

open DiplomatModel.KtNative in
example : ktNativeText C01.envEx "" "Op"
    ⟨"m", some ⟨true, .anon, false⟩, [("a", .prim .u16), ("o", .opt (.ref .anon false (.named "Op")) .std), ("w", .write)],
      some (.res .unit (.named "En") .std)⟩ = some "fun Op_m(handle: Pointer, a: FFIUint16, o: Pointer?, write: Pointer): ResultUnitInt" := by decide +kernel

end DiplomatModel.Props.C07
