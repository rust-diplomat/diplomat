/-
  C10 — Option and Result use one consistent wire encoding everywhere.

  Type level (over the ABI model of `AbiGen`, shared with C01): an optional opaque reference / box is a bare
  pointer; every other accepted `Option<T>` is `{payload, is_ok}` and is the same description as
  `DiplomatResult<T, ()>`; unit and zero-sized arms occupy no payload; the C backend's type never depends on
  the spelling (std vs Diplomat), hence both spellings have identical C declarations, and — through C01's
  agreement theorems — identical Rust-side wire descriptions.

  Value level: the conversions the macro inserts (`.into()`, `.ok_or(()).into()`, `Option::from`) between the
  user-facing value and the wire value `{payload, is_ok}` are modelled as total functions; `is_ok` is true
  exactly for `Some` / `Ok`, the payload is the one given, and going through either spelling is the identity.
-/
import DiplomatModel.Props.C01
import DiplomatModel.Lemmas.JsSlot
namespace DiplomatModel.Props.C10
open DiplomatModel.Lower DiplomatModel.AbiGen DiplomatModel.Props.C05 DiplomatModel.Props.C01

/-! ### type level -/

/-- An accepted optional opaque reference is a bare (nullable) pointer in parameter position, on both sides. -/
theorem optional_pointer_is_pointer (env : Env) (lt : Lt) (m : Bool) (n : String)
    (h : isOpaqueName env n = true) :
    rAbi env (paramTy (.opt (.ref lt m (.named n)) .std)) = some [.ptr]
    ∧ (cTy env (.opt (.ref lt m (.named n)) .std)).bind cAbi = some [.ptr] := by
  simp [paramTy, isFfiSafe, toSyn, rAbi, isPtrTo, cTy, h, cAbiSimple]

/-- … and in return position, for references and boxes alike. -/
theorem optional_pointer_return (env : Env) (abi : String) (lt : Lt) (m : Bool) (n : String)
    (h : isOpaqueName env n = true) :
    rAbi env (retTy (some (.opt (.ref lt m (.named n)) .std))) = some [.ptr]
    ∧ (cRetTy env abi (some (.opt (.ref lt m (.named n)) .std))).bind cAbi = some [.ptr]
    ∧ rAbi env (retTy (some (.opt (.box (.named n)) .std))) = some [.ptr]
    ∧ (cRetTy env abi (some (.opt (.box (.named n)) .std))).bind cAbi = some [.ptr] := by
  simp [retTy, toSyn, rAbi, isPtrTo, cRetTy, cTy, h, cAbiSimple]

/-- `DiplomatOption<T>` is `DiplomatResult<T, ()>`: the same wire description for every payload. -/
theorem option_is_result (env : Env) (t : RTy) :
    rAbi env (.dipOption t) = rAbi env (.dipResult t .unit) := by
  cases h : rAbi env t <;> simp [rAbi, h]

/-- A unit arm occupies no payload: `Result<(), ()>` / `Option<()>` is the bare flag, `Result<T, ()>` has
    exactly `T` in its union — on the Rust side and on the C side. -/
theorem unit_arm_no_payload (env : Env) (abi : String) :
    rAbi env (.dipResult .unit .unit) = some (mkResult [])
    ∧ (∀ t a, rAbi env t = some a → rAbi env (.dipResult t .unit) = some (mkResult (rArm a))
              ∧ rAbi env (.dipResult .unit t) = some (mkResult (rArm a)))
    ∧ cArm env .unit = some none
    ∧ cAbi (.result abi none none) = some (mkResult []) := by
  refine ⟨by simp [rAbi], ?_, by simp [cArm, isUnit], by rw [cAbi_result cArmAbi_none cArmAbi_none]; rfl⟩
  intro t a h
  simp [rAbi, h]

/-- a non-pointer `Option<T>` parameter is written `DiplomatOption<T'>` by the macro, whatever the spelling -/
theorem option_param_is_dipOption (t : TyName) (sd : Sd)
    (hb : ∀ b, t ≠ .box b) (hr : ∀ lt m b, t ≠ .ref lt m b) :
    ∃ x, paramTy (.opt t sd) = .dipOption x := by
  -- around a payload that is not a pointer, only the Diplomat spelling is FFI-safe (`hb`, `hr` select the branch)
  cases sd
  · exact ⟨toSyn (ffiSafeVersion t), by simp [paramTy, isFfiSafe, ffiSafeVersion, toSyn]⟩
  · exact ⟨toSyn t, by simp [paramTy, isFfiSafe, toSyn]⟩

/-- every spelling set to the Diplomat one -/
def normSpelling : TyName → TyName
  | .opt t _ => .opt (normSpelling t) .dip
  | .res a b _ => .res (normSpelling a) (normSpelling b) .dip
  | .strRef lt e _ => .strRef lt e .dip
  | .primSlice ltm p _ => .primSlice ltm p .dip
  | .strSlice e _ => .strSlice e .dip
  | .ref lt m t => .ref lt m (normSpelling t)
  | .box t => .box (normSpelling t)
  | t => t

theorem cTy_spelling (env : Env) (t : TyName) : cTy env t = cTy env (normSpelling t) := by
  cases t with
  | opt x sd =>
    cases x with
    | ref _ _ y | box y => cases y <;> rfl
    | _ => rfl
  | ref _ _ x | box x => cases x <;> rfl
  | _ => rfl

theorem isZst_spelling (env : Env) (t : TyName) : isZst env t = isZst env (normSpelling t) := by
  cases t <;> rfl

theorem isUnit_spelling (t : TyName) : isUnit t = isUnit (normSpelling t) := by
  cases t <;> rfl

theorem cArm_spelling (env : Env) (t : TyName) : cArm env t = cArm env (normSpelling t) := by
  simp [cArm, ← isZst_spelling, ← isUnit_spelling, ← cTy_spelling]

theorem cRetTy_spelling (env : Env) (abi : String) (t : TyName) :
    cRetTy env abi (some t) = cRetTy env abi (some (normSpelling t)) := by
  -- stated before the case split, so that each case finds them at its own shape and closes by unfolding `cRetTy`
  have hc := cTy_spelling env t
  cases t with
  | res a b sd => simp only [normSpelling, cRetTy, ← cArm_spelling]
  | opt v sd =>
    have ha := congrArg (Option.map fun a => CTy.result abi a none) (cArm_spelling env v)
    cases v with
    | box | ref => exact hc  -- an optional pointer: the C type of the option itself
    | _ => exact ha  -- any other payload: through its arm
  | unit => rfl
  | _ => exact hc  -- a plain type: its C type

/-- **Identical C declarations.** Two parameter / field / return types that differ only in spelling
    (`Option` vs `DiplomatOption`, `Result` vs `DiplomatResult`, `&str` vs `DiplomatUtf8StrSlice`, `&[T]`
    vs `DiplomatSlice<T>`, …) get the same C type — the backend never looks at the spelling. -/
theorem spellings_identical (env : Env) (t t' : TyName) (h : normSpelling t = normSpelling t') :
    cTy env t = cTy env t' := by
  rw [cTy_spelling env t, cTy_spelling env t', h]

theorem spellings_identical_ret (env : Env) (abi : String) (t t' : TyName) (h : normSpelling t = normSpelling t') :
    cRetTy env abi (some t) = cRetTy env abi (some t') := by
  rw [cRetTy_spelling env abi t, cRetTy_spelling env abi t', h]

/-- **Identical Rust-side encoding.** If both spellings of a parameter type are accepted, the macro's two
    Rust types have the same wire description (both equal the one C type's). -/
theorem spellings_same_wire (env : Env) (sup : Support) (t t' : TyName)
    (h : normSpelling t = normSpelling t')
    (ht : InOk env sup false t) (ht' : InOk env sup false t')
    (h128 : has128 t = false) (h128' : has128 t' = false)
    (hf : dipOptOfStdSlice t = false) (hf' : dipOptOfStdSlice t' = false)
    (hfn : ∀ ps r, t ≠ .fn ps r) (hfn' : ∀ ps r, t' ≠ .fn ps r) :
    rAbi env (paramTy t) = rAbi env (paramTy t') := by
  obtain ⟨c, hc, ha, _⟩ := param_agree_partial env sup t ht h128 hf hfn
  obtain ⟨c', hc', ha', _⟩ := param_agree_partial env sup t' ht' h128' hf' hfn'
  obtain rfl : c = c' := Option.some.inj (hc.symm.trans ((spellings_identical env t t' h).trans hc'))
  rw [ha, ha']

/-- The gate treats the two spellings of a non-pointer option alike in parameter and return positions (the
    documented asymmetries — std `Option` in struct fields, `DiplomatOption<&T>` — are the only ones). -/
theorem option_spelling_gate (env : Env) (sup : Support) (t : TyName)
    (hb : ∀ b, t ≠ .box b) (hr : ∀ lt m b, t ≠ .ref lt m b) :
    inErrs env sup false (.opt t .std) = inErrs env sup false (.opt t .dip)
    ∧ outErrs env sup false true (.opt t .std) = outErrs env sup false true (.opt t .dip) := by
  cases t with
  | box b => exact absurd rfl (hb b)
  | ref lt m b => exact absurd rfl (hr lt m b)
  | _ => exact ⟨rfl, rfl⟩  -- outside struct fields no other branch of the gate looks at the spelling

/-! ### value level: what the inserted conversions do -/

/-- `DiplomatResult<T, E>` as a value: the flag and the live payload -/
inductive Wire (α β : Type) where
  | mk (isOk : Bool) (ok : Option α) (err : Option β)
  deriving Repr, DecidableEq

def Wire.isOk {α β} : Wire α β → Bool | .mk b _ _ => b

/-- `impl From<Result<T, E>> for DiplomatResult<T, E>` -/
def fromResult {α β} : Except β α → Wire α β
  | .ok v => .mk true (some v) none
  | .error e => .mk false none (some e)

/-- `impl From<DiplomatResult<T, E>> for Result<T, E>` (on well-formed wire values) -/
def intoResult {α β} : Wire α β → Option (Except β α)
  | .mk true (some v) _ => some (.ok v)
  | .mk false _ (some e) => some (.error e)
  | _ => none

/-- `option.ok_or(()).into()` — `impl From<Option<T>> for DiplomatOption<T>` -/
def fromOption {α} : Option α → Wire α Unit
  | some v => fromResult (.ok v)
  | none => fromResult (.error ())

/-- `Result::<T, ()>::from(result).ok()` — `impl From<DiplomatOption<T>> for Option<T>` -/
def intoOption {α} (w : Wire α Unit) : Option (Option α) :=
  (intoResult w).map fun r => match r with | .ok v => some v | .error _ => none

/-- `is_ok` is true exactly for `Ok`, and the payload that crosses is the one given. -/
theorem result_encoding {α β} (r : Except β α) :
    ((fromResult r).isOk = true ↔ ∃ v, r = .ok v) ∧ intoResult (fromResult r) = some r := by
  cases r <;> simp [fromResult, Wire.isOk, intoResult]

/-- `is_ok` is true exactly for `Some`; converting back gives the same option. -/
theorem option_encoding {α} (o : Option α) :
    ((fromOption o).isOk = true ↔ o.isSome = true) ∧ intoOption (fromOption o) = some o := by
  cases o <;> simp [fromOption, fromResult, Wire.isOk, intoOption, intoResult]

/-- **Identical behaviour of the two spellings.** A std-spelled `Option<T>` parameter is converted with
    `into()` before the method sees it and a std-spelled return is converted with `ok_or(()).into()` after;
    a Diplomat-spelled one is passed through.  For one abstract value both routes put the same value on the
    wire, and read the same value off it. -/
theorem spellings_same_behaviour {α} (o : Option α) (w : Wire α Unit) (hw : w = fromOption o) :
    -- return: the std-spelled method returns `o`, the Diplomat-spelled one returns the wire value of `o`
    fromOption o = w
    -- parameter: the std-spelled method receives `into()` of the wire value, which is `o` again
    ∧ intoOption w = some o := by
  subst hw
  exact ⟨rfl, (option_encoding o).2⟩

/-! ### non-vacuity -/

example : normSpelling (.opt (.strRef (some .anon) .utf8 .std) .std) = normSpelling (.opt (.strRef (some .anon) .utf8 .dip) .dip) := rfl
example : (cTy C01.envEx (.opt (.prim .u8) .std)).bind cAbi = some (mkResult [[.int 8 false]]) ∧ (cTy C01.envEx (.opt (.prim .u8) .dip)).bind cAbi = some (mkResult [[.int 8 false]]) := by decide +kernel
example : rAbi C01.envEx (paramTy (.opt (.prim .u8) .std)) = rAbi C01.envEx (paramTy (.opt (.prim .u8) .dip)) := by decide
example : intoOption (fromOption (some 5)) = some (some 5) ∧ (fromOption (none : Option Nat)).isOk = false := by decide

/-! ### bytes (the codec of `Wire.lean`, layout tied to gcc / rustc by C01's `wire-layout` rows) -/

open DiplomatModel.Wire in
/-- **One encoding, whatever the spelling**: the wire type of an optional parameter, field or return value does not
    depend on whether it was written `Option<T>` or `DiplomatOption<T>`; for non-pointer payloads it is the
    `{payload, is_ok}` record of `Result<T, ()>`, for opaque references and boxes a bare pointer. -/
theorem option_wire_spelling_invariant (env : Env) (fuel : Nat) (t : TyName) :
    wireOf env fuel (.opt t .std) = wireOf env fuel (.opt t .dip) := by
  -- `wireOf` matches an option as `.opt inner _`
  cases fuel <;> rfl

open DiplomatModel.Wire in
theorem option_wire_is_result (env : Env) (fuel : Nat) (t : TyName) (w : WTy)
    (hb : ∀ b, t ≠ .box b) (hr : ∀ lt m b, t ≠ .ref lt m b) (h : wireOf env fuel t = some w) (sd : Sd) :
    wireOf env (fuel + 1) (.opt t sd) = some (.result w .unit) := by
  -- `wireOf` treats `Option<&Opaque>` and `Option<Box<Opaque>>` apart; every other payload takes the general arm
  rw [wireOf]
  · rw [h]; rfl
  · exact fun lt m n => hr lt m _
  · exact fun n => hb _

open DiplomatModel.Wire in
/-- **`is_ok` is true exactly for Some/Ok, and the payload is the one stored**: storing `Ok(v)` and loading gives
    `Ok(v)`, storing `Err(e)` gives `Err(e)` — for every payload type, any memory, any address. -/
theorem result_bytes_roundtrip (ok err : WTy) (hwf : (WTy.result ok err).WF) (base : Nat) (m : Memory.Mem) (v : WVal) :
    (WellTyped ok v → decode (.result ok err) base (encode (.result ok err) (.ok v) base m) = .ok v)
    ∧ (WellTyped err v → decode (.result ok err) base (encode (.result ok err) (.err v) base m) = .err v) :=
  C01.result_arm_roundtrip ok err v base m hwf

open DiplomatModel.Wire in
/-- **Unit arms occupy no payload**: `Result<(), ()>` / `Option<()>` is the flag byte alone, and a unit arm next to
    a payload arm adds nothing to the record. -/
theorem unit_arms_take_no_bytes (w : WTy) (hwf : w.WF) :
    size (.result .unit .unit) = 1 ∧ flagOffset .unit .unit = 0
    ∧ flagOffset w .unit = flagOffset w w ∧ size (.result w .unit) = size (.result w w) :=
  ⟨rfl, rfl, result_unit_arm (align_pos w hwf)⟩

open DiplomatModel.Wire DiplomatModel.JsSlot in
/-- **JS reads `is_ok` where Rust writes it** (result with an error payload): whatever the success value is — a
    value in the slot, nothing, or a string that goes through the write buffer — the byte the generated JS reads
    the flag from is the flag offset of the `DiplomatResult` Rust returns, the slot reaches exactly to that byte,
    and it is allocated with the record's alignment. -/
theorem js_result_slot_is_wire_result (ok : Succ) (e : WTy) (hok : (rustOk ok).WF) (he : e.WF) :
    flagByte ok (some e) = flagOffset (rustOk ok) e
    ∧ (resultSlot ok (some e)).1 = flagOffset (rustOk ok) e + 1
    ∧ (resultSlot ok (some e)).2 = align (.result (rustOk ok) e) := by
  rw [flagByte, resultSlot_some ok e (align_pos e he)]
  exact ⟨Nat.add_sub_cancel .., rfl, rfl⟩

open DiplomatModel.Wire DiplomatModel.JsSlot in
/-- … and without an error payload (`Option<T>`, `Result<T, ()>` with a value `T` in the slot): the flag sits
    directly behind the value. -/
theorem js_option_slot_is_wire_result (t : WTy) (ht : t.WF) :
    flagByte (.out t) none = flagOffset t .unit
    ∧ (resultSlot (.out t) none).2 = align (.result t .unit) :=
  resultSlot_none t (align_pos t ht) (size_mod_align t ht)

open DiplomatModel.Wire DiplomatModel.JsSlot in
/-- the two shapes the rule used to get wrong (finding F41): a unit success beside a one-byte error, and an error
    more aligned than a larger success whose size is not a multiple of that alignment -/
example : resultSlot .unit (some (.struct [.scalar 1])) = (2, 1)
    ∧ resultSlot (.out (.struct [.scalar 1, .scalar 1, .scalar 1, .scalar 1, .scalar 1])) (some (.struct [.scalar 4])) = (9, 4) := by
  decide

end DiplomatModel.Props.C10
