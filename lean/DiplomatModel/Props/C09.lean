/-
  C09 — whatever the tool accepts builds (PARTIAL: names and include paths are modelled; the rest of the
  claim — that every header, module and macro expansion is well-formed — is decided by the real compilers
  in the harness, see DESIGN.md).

  Proved here:
  * an identifier that went through `fmt_identifier` is never a keyword of the target language, for the
    keyword tables regenerated from the current source (C, C++, JS);
  * those tables contain every keyword of C11 (ISO/IEC 9899:2011 §6.4.1), of C++20 ([lex.key], with the
    alternative tokens) and every reserved word of ECMAScript modules (ES2015 §11.6.2, strict mode), typed
    in below from the standards — so "not in the table" really means "not a keyword";
  * escaping is injective on names that are not themselves `keyword_`;
  * the relative include path computed by `path_diff` resolves, from the including header's directory, to
    exactly the target header — for namespaces nested to any depth.
-/
import DiplomatModel.Lemmas.Idents
namespace DiplomatModel.Props.C09
open DiplomatModel.Idents DiplomatModel.Generated

/-- the tables are closed the right way: appending `_` to a keyword never yields another keyword -/
def Closed (kws : List String) : Bool := kws.all fun k => !kws.contains (k ++ "_")

theorem escaped_not_keyword_of_closed (kws : List String) (h : Closed kws = true) (name : String) :
    kws.contains (fmtIdentifier kws name) = false := by
  unfold fmtIdentifier
  split
  · next hk => simpa using List.all_eq_true.mp h name (List.contains_iff_mem.mp hk)  -- a keyword: `_` is appended
  · next hk => simpa using hk  -- not a keyword: the name is kept

def c11Keywords : List String :=
  ["auto", "break", "case", "char", "const", "continue", "default", "do", "double", "else", "enum", "extern",
   "float", "for", "goto", "if", "inline", "int", "long", "register", "restrict", "return", "short", "signed",
   "sizeof", "static", "struct", "switch", "typedef", "union", "unsigned", "void", "volatile", "while",
   "_Alignas", "_Alignof", "_Atomic", "_Bool", "_Complex", "_Generic", "_Imaginary", "_Noreturn",
   "_Static_assert", "_Thread_local"]

def cpp20Keywords : List String :=
  ["alignas", "alignof", "asm", "auto", "bool", "break", "case", "catch", "char", "char8_t", "char16_t",
   "char32_t", "class", "concept", "const", "consteval", "constexpr", "constinit", "const_cast", "continue",
   "co_await", "co_return", "co_yield", "decltype", "default", "delete", "do", "double", "dynamic_cast", "else",
   "enum", "explicit", "export", "extern", "false", "float", "for", "friend", "goto", "if", "inline", "int",
   "long", "mutable", "namespace", "new", "noexcept", "nullptr", "operator", "private", "protected", "public",
   "register", "reinterpret_cast", "requires", "return", "short", "signed", "sizeof", "static", "static_assert",
   "static_cast", "struct", "switch", "template", "this", "thread_local", "throw", "true", "try", "typedef",
   "typeid", "typename", "union", "unsigned", "using", "virtual", "void", "volatile", "wchar_t", "while",
   "and", "and_eq", "bitand", "bitor", "compl", "not", "not_eq", "or", "or_eq", "xor", "xor_eq"]

/-- reserved words of ES module code: keywords, future reserved words, strict-mode reserved words, literals,
    and the two names that may not be bound in strict mode -/
def esModuleReserved : List String :=
  ["break", "case", "catch", "class", "const", "continue", "debugger", "default", "delete", "do", "else",
   "export", "extends", "finally", "for", "function", "if", "import", "in", "instanceof", "new", "return",
   "super", "switch", "this", "throw", "try", "typeof", "var", "void", "while", "with", "yield",
   "enum", "await",
   "implements", "interface", "let", "package", "private", "protected", "public", "static",
   "null", "true", "false",
   "arguments", "eval"]

/-- each table against the standard it follows, evaluated once (`tableCheck`) -/
theorem tables_checked :
    tableCheck (table .c) c11Keywords = true ∧ tableCheck (table .cpp) cpp20Keywords = true ∧
    tableCheck (table .js) esModuleReserved = true := by
  decide +kernel

theorem tables_closed : Closed (table .c) = true ∧ Closed (table .cpp) = true ∧ Closed (table .js) = true :=
  ⟨(of_tableCheck tables_checked.1).1, (of_tableCheck tables_checked.2.1).1, (of_tableCheck tables_checked.2.2).1⟩

/-- **No generated identifier is a keyword** of its target language (parameters, fields, methods). -/
theorem escaped_never_keyword (l : Lang) (name : String) :
    (table l).contains (fmtIdentifier (table l) name) = false := by
  apply escaped_not_keyword_of_closed
  cases l
  · exact tables_closed.1
  · exact tables_closed.2.1
  · exact tables_closed.2.2

/-- **The tables cover the standards.** -/
theorem tables_cover_standards :
    (c11Keywords.all fun k => (table .c).contains k) = true ∧
    (cpp20Keywords.all fun k => (table .cpp).contains k) = true ∧
    (c11Keywords.all fun k => (table .cpp).contains k) = true ∧
    (esModuleReserved.all fun k => (table .js).contains k) = true := by
  have hc := (of_tableCheck tables_checked.1).2
  refine ⟨hc, (of_tableCheck tables_checked.2.1).2, List.all_eq_true.mpr fun k hk => ?_,
    (of_tableCheck tables_checked.2.2).2⟩
  -- the C++ table is the C table and more
  have := List.all_eq_true.mp hc k hk
  simp only [table, cppKeywords, List.contains_iff_mem, List.mem_append] at this ⊢
  exact Or.inl this

/-- escaping keeps distinct names distinct, unless one of them already is `keyword_` -/
theorem escape_injective_partial (kws : List String) (a b : String)
    (ha : ∀ k ∈ kws, a ≠ k ++ "_") (hb : ∀ k ∈ kws, b ≠ k ++ "_")
    (h : fmtIdentifier kws a = fmtIdentifier kws b) : a = b := by
  unfold fmtIdentifier at h
  split at h <;> split at h
  next => exact (String.append_left_inj "_").mp h  -- both escaped
  next hka _ => exact absurd h.symm (hb a (List.contains_iff_mem.mp hka))  -- only `a`: then `b` is `a_`
  next _ hkb => exact absurd h (ha b (List.contains_iff_mem.mp hkb))  -- only `b`
  next => exact h  -- neither

/-- **Relative includes resolve.** From a header in directory `bd`, the path `path_diff` computes for the
    header `file` in directory `pd` leads exactly there — whatever the nesting of the two namespaces. -/
theorem include_path_resolves (bd pd : List String) (file : String)
    (hpd : ∀ s ∈ pd, s ≠ "..") (hf : file ≠ "..") :
    resolve bd (pathDiff bd pd file) = pd ++ [file] := by
  rcases h : stripCommon bd pd with ⟨b, p⟩
  obtain ⟨c, rfl, rfl⟩ := stripCommon_spec h
  rw [pathDiff, h, List.append_assoc, resolve_ups, resolve_plain, List.append_assoc]
  exact List.forall_mem_append.mpr ⟨fun s hs => hpd s (List.mem_append_right c hs), List.forall_mem_singleton.mpr hf⟩

/-! non-vacuity -/
example : fmtIdentifier (table .c) "int" = "int_" ∧ fmtIdentifier (table .c) "class" = "class"
    ∧ fmtIdentifier (table .cpp) "class" = "class_" ∧ fmtIdentifier (table .js) "interface" = "interface_" := by
  decide +kernel
example : pathDiff ["a", "b", "c"] ["a", "b", "z", "c"] "d.hpp" = ["..", "z", "c", "d.hpp"] := by decide
example : resolve ["a", "b", "c"] (pathDiff ["a", "b", "c"] ["a", "b", "z", "c"] "d.hpp") = ["a", "b", "z", "c", "d.hpp"] := by decide

end DiplomatModel.Props.C09
