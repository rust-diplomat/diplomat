/-
  C02 — C++ bindings preserve values and outcomes in both directions; a `&str` passed directly as a method
  parameter that is not valid UTF-8 is rejected on the C++ side and never reaches Rust.

  PARTIAL: the theorems cover the UTF-8 guard (which parameters are validated, what the wrapper does, that the
  validity test is exactly UTF-8 — through C16's automaton theorem) and the value-level conversions of
  optionals, nullable pointers and unit options.  The conversion expressions for the remaining types and the
  behaviour of `diplomat_runtime.hpp` are decided by the compiled end-to-end C++ driver.

  The second half is about the method implementation the backend prints (`CppMethod`): it validates the guard list
  above, every accepted parameter type has a C++ type and a conversion to C, the call passes one argument per C
  parameter, and a returned `Result` / `Option` is a conditional on `is_ok`.
-/
import DiplomatModel.CppGen
import DiplomatModel.Props.C16
import DiplomatModel.Props.C01
import DiplomatModel.CppMethod
import DiplomatModel.Lemmas.Cpp
namespace DiplomatModel.Props.C02
open DiplomatModel.Lower DiplomatModel.AbiGen DiplomatModel.CppGen DiplomatModel.CppMethod
open DiplomatModel.Props.C05 (InOk)
open DiplomatModel.Props.C01 (has128 cPrim_some inOk_cTy)

/-- **Exactly the direct `&str` parameters are validated**: a parameter is in the guard list iff its own type
    is a (borrowed or owned) UTF-8 string — not an optional string, not a string inside a struct or slice, not
    an unvalidated encoding. -/
theorem guard_iff (m : AMethod) (n : String) :
    n ∈ guardedParams m ↔ ∃ t, (n, t) ∈ m.params ∧ isUtf8Str t = true := by
  simp only [guardedParams, List.mem_map, List.mem_filter]
  constructor
  · rintro ⟨p, ⟨hp, hs⟩, rfl⟩; exact ⟨p.2, hp, hs⟩
  · rintro ⟨t, hp, hs⟩; exact ⟨(n, t), ⟨hp, hs⟩, rfl⟩

theorem no_guard_elsewhere (lt : Option Lt) (e : Enc) (sd osd : Sd) (ltm : Option (Lt × Bool)) (p : Prim) :
    isUtf8Str (.opt (.strRef lt .utf8 sd) osd) = false
    ∧ isUtf8Str (.strSlice e sd) = false
    ∧ isUtf8Str (.strRef lt .unvalidatedUtf8 sd) = false
    ∧ isUtf8Str (.strRef lt .unvalidatedUtf16 sd) = false
    ∧ isUtf8Str (.primSlice ltm p sd) = false
    ∧ (∀ n, isUtf8Str (.named n) = false) := by
  simp [isUtf8Str]

/-- the wrapper's return type is the `Utf8Error` result exactly when something is validated -/
theorem wraps_iff (m : AMethod) : wrapsUtf8 m = true ↔ ∃ p ∈ m.params, isUtf8Str p.2 = true := by
  rw [wrapsUtf8, guardedParams, List.isEmpty_map, Bool.not_eq_true', List.isEmpty_eq_false_iff_exists_mem]
  simp only [List.mem_filter]

/-- **Invalid UTF-8 never reaches Rust.** If some validated argument is not valid UTF-8, the wrapper returns
    the `Utf8Error` and the exported function is not called. -/
theorem invalid_never_reaches_rust {ρ : Type} (guarded : List Bool) (args : List Arg) (rust : List Arg → ρ)
    (h : ∃ ga ∈ guarded.zip args, ga.1 = true ∧ ga.2.valid = false) :
    (wrapper guarded args rust).2 = 0 ∧ (match (wrapper guarded args rust).1 with | .utf8Error => True | _ => False) := by
  obtain ⟨ga, hm, hg, hv⟩ := h
  have : ((guarded.zip args).all fun ga => !ga.1 || ga.2.valid) = false :=
    List.all_eq_false.mpr ⟨ga, hm, by simp [hg, hv]⟩
  simp [wrapper, this]

/-- Otherwise the exported function is called exactly once with the arguments as given, and its result is returned. -/
theorem valid_calls_once {ρ : Type} (guarded : List Bool) (args : List Arg) (rust : List Arg → ρ)
    (h : ∀ ga ∈ guarded.zip args, ga.1 = true → ga.2.valid = true) :
    wrapper guarded args rust = (.returned (rust args), 1) := by
  have : ((guarded.zip args).all fun ga => !ga.1 || ga.2.valid) = true :=
    List.all_eq_true.mpr fun ga hm => by cases hg : ga.1 <;> simp [h ga hm, hg]
  simp [wrapper, this]

/-- The test the wrapper applies (`diplomat_is_str`, tied to the real function exhaustively by C16) accepts
    exactly the byte strings that are the UTF-8 encoding of a sequence of Unicode scalar values. -/
theorem guard_is_exactly_utf8 (bs : List Nat) : (Arg.str bs).valid = true ↔ Utf8.IsUtf8 bs :=
  DiplomatModel.Props.C16.validUtf8_iff bs

/-- `std::optional<T>` → C option struct → `std::optional<T>` is the identity, and `is_ok` is `has_value()`. -/
theorem optional_roundtrip {α β : Type} (to : α → β) (from_ : β → α) (hinv : ∀ a, from_ (to a) = a) (o : Option α) :
    optFromC from_ (optToC to o) = some o ∧ (optToC to o).2 = o.isSome := by
  cases o <;> simp [optToC, optFromC, hinv]

/-- a nullable pointer: absent ↦ NULL ↦ absent; present (non-NULL address) ↦ itself -/
theorem optional_pointer_roundtrip (o : Option Nat) (h : ∀ a, o = some a → a ≠ 0) :
    ptrFromC (ptrToC o) = o ∧ (ptrToC o = 0 ↔ o = none) := by
  cases o with
  | none => simp [ptrToC, ptrFromC]
  | some a => simp [ptrToC, ptrFromC, h a rfl]

/-- `Option<()>`: `Some(())` comes back as an engaged optional, `None` as `nullopt` … -/
theorem option_unit_return (isOk : Bool) : (optUnitFromC isOk).isSome = isOk := by
  cases isOk <;> rfl

/-- … which the expression generated before the repair (F29) did not do. -/
example : (optUnitFromC_before true).isSome ≠ true := by decide

/-! ### non-vacuity -/
def mEx : AMethod := ⟨"m", none, [("a", .strRef (some .anon) .utf8 .std), ("b", .opt (.strRef (some .anon) .utf8 .std) .std), ("c", .strRef none .utf8 .dip)], none⟩
example : guardedParams mEx = ["a", "c"] ∧ wrapsUtf8 mEx = true := by decide
example : (wrapper [true, false] [.str [0xff], .other 1] (fun _ => 7)).2 = 0 := by decide
example : (wrapper [true, false] [.str [0x41], .other 1] (fun _ => 7)).2 = 1 := by decide

/-! ### the generated method implementation (`CppMethod`, exact-text tie `cpp-method`) -/

/-- **The two models of the guard agree**: the parameters `methodImpl` prints a validation for are the guard
    list of `CppGen` (the write buffer, which is not a C++ parameter, is never validated). -/
theorem guards_agree (m : AMethod) :
    ((cppParams m).filter fun p => isUtf8Param p.2).map (·.1) = guardedParams m := by
  unfold cppParams guardedParams
  rw [List.filter_filter]
  congr 1
  apply List.filter_congr
  intro p _
  -- both tests are false except on a string, where they compare the encoding with `utf8`
  cases p.2 with
  | strRef lt e sd => cases e <;> rfl
  | _ => rfl

/-- **C++ follows C**: wherever the C backend has a type, the C++ backend has a type name and a conversion to C.
    `cppTyName` and `cppToC` branch like `cTy`; for (options of) primitives and slices of primitives `cppTyName` reads the
    table of primitive names, which has a row for every primitive but the 128-bit ones, where `cTy` reads the one of derived names. -/
theorem cpp_total {env : Env} {t : TyName} (x : String) (hc : (cTy env t).isSome = true) (h128 : has128 t = false) :
    (cppTyName env t).isSome = true ∧ (cppToC env t x).isSome = true := by
  revert hc
  fun_cases cTy env t <;> intro hc
  all_goals try contradiction
  case case1 | case2 => simpa [cppTyName, cppToC, cppToCPlain] using hc  -- a primitive, `Ordering`: the same table
  case case14 sd p | case19 sd ltm p s | case23 ltm p s =>  -- `Option<prim>`, (an option of) a slice of primitives
    obtain ⟨c, hn, -⟩ := cPrim_some p h128
    obtain ⟨d, hd⟩ := Option.isSome_iff_exists.mp hc
    simp [cppTyName, cppToC, cppToCPlain, capiOpt, cTy, hn, hd]
  all_goals simp [cppTyName, cppToC, cppToCPlain, capiOpt, cTy, *]

/-- **Every parameter type the gate lets through has a C++ type and a conversion to C.** (128-bit integers have
    no C spelling; callbacks are covered by the tie only.) -/
theorem cpp_param_total_partial (env : Env) (sup : Support) (t : TyName) (x : String)
    (h : InOk env sup false t) (h128 : has128 t = false) (hfn : ∀ ps r, t ≠ .fn ps r) :
    (cppTyName env t).isSome = true ∧ (cppToC env t x).isSome = true :=
  cpp_total x (inOk_cTy h hfn h128).1 h128

/-- **One argument per C parameter.** With at most one `DiplomatWrite` parameter (the gate allows it only as the
    last one), the call the wrapper makes passes exactly as many arguments as the C prototype declares: `self`,
    one per parameter, and the write buffer. -/
theorem cpp_args_match_c_params (env : Env) (pfx owner : String) (m : AMethod) (args : List String)
    (ps : List (String × CTy))
    (hw : (m.params.filter fun p => match p.2 with | .write => true | _ => false).length ≤ 1)
    (ha : cppArgs env m = some args) (hc : cParams env pfx owner m = some ps) :
    args.length = ps.length := by
  rw [cppArgs_length ha, cParams_length hc, ← params_split m hw, Nat.add_assoc]

/-- **Which arm comes back.** For a method returning `Result<T, E>` the wrapper's return expression is a
    conditional on the C result's `is_ok`: the `Ok` constructor in the true branch, `Err` in the false branch. -/
theorem fallible_return_shape (env : Env) (ok : Succ) (err : Option TyName) (e : String)
    (h : cToCppRet env (.fallible ok err) "result" = some (some e)) :
    ∃ res o er oc ec, e = "result.is_ok ? " ++ res ++ "(diplomat::Ok<" ++ o ++ ">(" ++ oc ++ ")) : " ++ res
        ++ "(diplomat::Err<" ++ er ++ ">(" ++ ec ++ "))" := by
  unfold cToCppRet at h
  simp only at h
  split at h
  · rename_i o er oc ec _ _ _ _  -- both type names and both conversions exist: the conditional
    simp only [Option.some.injEq, String.reduceAppend] at h  -- `"result" ++ ".is_ok ? "` is one literal in the statement
    exact ⟨_, o, er, oc, ec, h.symm⟩
  · cases h  -- one of them is missing: nothing is rendered

/-- for a method returning `Option<T>` (not a pointer): engaged exactly in the `is_ok` branch -/
theorem nullable_return_shape (env : Env) (s : Succ) (e : String)
    (h : cToCppRet env (.nullable s) "result" = some (some e)) :
    ∃ n c, e = "result.is_ok ? std::optional<" ++ n ++ ">(" ++ c ++ ") : std::nullopt" := by
  unfold cToCppRet at h
  simp only at h
  split at h
  · rename_i n c _ _  -- the type name and the conversion exist: the conditional
    simp only [Option.some.injEq, String.reduceAppend] at h
    exact ⟨n, c, h.symm⟩
  · cases h  -- one of them is missing: nothing is rendered

/-- non-vacuity: a concrete method renders, with a validated parameter, an optional and a result -/
example : (methodImpl [("Opa", .opaqueTy), ("En", .enumTy)] "c3_" "Opa"
    ⟨"m", some ⟨true, .anon, false⟩, [("s", .strRef (some .anon) .utf8 .std), ("x", .opt (.prim .u8) .std)],
      some (.res (.box (.named "Opa")) (.named "En") .std)⟩).isSome = true := by decide

end DiplomatModel.Props.C02
