/-
  C01 — values crossing the boundary as bytes.

  Both sides of the boundary lay a value out by the C rules for the *same* description (C01's agreement theorems
  show the descriptions are equal): scalars as their little-endian bytes at naturally aligned offsets, structs
  field by field by the repr(C) algorithm, `Option`/`Result` as `{ union { ok; err; }; bool is_ok; }`.  This file
  is that layout as a codec over a byte memory: `encode` is what the caller stores, `decode` what the callee loads.
-/
import DiplomatModel.Memory
import DiplomatModel.JsLayout
import DiplomatModel.AbiGen
namespace DiplomatModel.Wire
open DiplomatModel.JsLayout DiplomatModel.Memory

inductive WTy where
  | unit                                  -- an arm without payload
  | scalar (size : Nat)                   -- integer, float, bool, pointer, enum: `size` bytes, aligned to `size`
  | struct (fs : List WTy)
  | result (ok err : WTy)                 -- also `Option<T>` (`err = unit`)
  deriving Repr, Inhabited

inductive WVal where
  | unit
  | scalar (bytes : List Nat)
  | struct (vs : List WVal)
  | ok (v : WVal)
  | err (v : WVal)
  deriving Repr, Inhabited

def roundUp (n a : Nat) : Nat := n + padTo n a

mutual
/-- (size, alignment) -/
def sizeAlign : WTy → Nat × Nat
  | .unit => (0, 1)
  | .scalar s => (s, s)
  | .struct fs =>
    let i := fieldInfoOf (layouts fs)
    (i.size, i.align)
  | .result ok err =>
    let ua := max (sizeAlign ok).2 (sizeAlign err).2
    let us := roundUp (max (sizeAlign ok).1 (sizeAlign err).1) ua
    (roundUp (us + 1) ua, ua)
def layouts : List WTy → List (Nat × Nat × SC)
  | [] => []
  | t :: ts => ((sizeAlign t).1, (sizeAlign t).2, SC.zst) :: layouts ts
end

def size (t : WTy) : Nat := (sizeAlign t).1
def align (t : WTy) : Nat := (sizeAlign t).2

/-- field offsets of a struct -/
def offsets (fs : List WTy) : List Nat := (fieldInfoOf (layouts fs)).fields.map (·.offset)

/-- where the `is_ok` byte of a result lives -/
def flagOffset (ok err : WTy) : Nat := roundUp (max (size ok) (size err)) (max (align ok) (align err))

mutual
/-- what the caller stores at `base` -/
def encode : WTy → WVal → Nat → Mem → Mem
  | .unit, _, _, m => m
  | .scalar _, .scalar bs, base, m => writeAt m base bs
  | .struct fs, .struct vs, base, m => encodeFields fs vs (offsets fs) base m
  | .result ok err, .ok v, base, m => writeAt (encode ok v base m) (base + flagOffset ok err) [1]
  | .result ok err, .err v, base, m => writeAt (encode err v base m) (base + flagOffset ok err) [0]
  | _, _, _, m => m
def encodeFields : List WTy → List WVal → List Nat → Nat → Mem → Mem
  | t :: ts, v :: vs, o :: os, base, m => encodeFields ts vs os base (encode t v (base + o) m)
  | _, _, _, _, m => m
end

mutual
/-- what the callee loads from `base` -/
def decode : WTy → Nat → Mem → WVal
  | .unit, _, _ => .unit
  | .scalar s, base, m => .scalar (readAt m base s)
  | .struct fs, base, m => .struct (decodeFields fs (offsets fs) base m)
  | .result ok err, base, m =>
    if m (base + flagOffset ok err) = 0 then .err (decode err base m) else .ok (decode ok base m)
def decodeFields : List WTy → List Nat → Nat → Mem → List WVal
  | t :: ts, o :: os, base, m => decode t (base + o) m :: decodeFields ts os base m
  | _, _, _, _ => []
end

mutual
/-- the value has the shape of the type -/
def WellTyped : WTy → WVal → Prop
  | .unit, .unit => True
  | .scalar s, .scalar bs => bs.length = s
  | .struct fs, .struct vs => WellTypedList fs vs
  | .result ok _, .ok v => WellTyped ok v
  | .result _ err, .err v => WellTyped err v
  | _, _ => False
def WellTypedList : List WTy → List WVal → Prop
  | [], [] => True
  | t :: ts, v :: vs => WellTyped t v ∧ WellTypedList ts vs
  | _, _ => False
end

mutual
/-- types the boundary uses: scalars of 1, 2, 4 or 8 bytes, non-empty structs -/
def WTy.WF : WTy → Prop
  | .unit => True
  | .scalar s => s = 1 ∨ s = 2 ∨ s = 4 ∨ s = 8
  | .struct fs => fs ≠ [] ∧ WFList fs
  | .result ok err => ok.WF ∧ err.WF
def WFList : List WTy → Prop
  | [] => True
  | t :: ts => t.WF ∧ WFList ts
end

/-! ### the wire type of a bridge type (x86-64: pointers and `usize` are 8 bytes) -/

open DiplomatModel.Lower DiplomatModel.AbiGen in
def primSize : Prim → Option Nat
  | .bool => some 1 | .char => some 4 | .i8 => some 1 | .u8 => some 1 | .i16 => some 2 | .u16 => some 2
  | .i32 => some 4 | .u32 => some 4 | .i64 => some 8 | .u64 => some 8 | .i128 => none | .u128 => none
  | .isize => some 8 | .usize => some 8 | .f32 => some 4 | .f64 => some 8 | .byte => some 1

def viewW : WTy := .struct [.scalar 8, .scalar 8]

open DiplomatModel.Lower DiplomatModel.AbiGen in
/-- parameter, field or plain return type; `fuel` bounds the nesting of structs -/
def wireOf (env : Env) : Nat → TyName → Option WTy
  | 0, _ => none
  | fuel + 1, t =>
    match t with
    | .prim p => (primSize p).map .scalar
    | .ordering => some (.scalar 1)
    | .named n =>
      match env.get n with
      | some (.struct _ fields) =>
        if fields.isEmpty then some .unit
        else (optMapM (fun f : String × TyName => wireOf env fuel f.2) fields).map .struct
      | some .enumTy => some (.scalar 4)
      | _ => none
    | .ref _ _ (.named n) => if isOpaqueName env n then some (.scalar 8) else none
    | .box (.named n) => if isOpaqueName env n then some (.scalar 8) else none
    | .opt inner _ =>
      match inner with
      | .ref _ _ (.named n) => if isOpaqueName env n then some (.scalar 8) else none
      | .box (.named n) => if isOpaqueName env n then some (.scalar 8) else none
      | inner => (wireOf env fuel inner).map fun w => .result w .unit
    | .strRef _ _ _ => some viewW
    | .primSlice _ _ _ => some viewW
    | .strSlice _ _ => some viewW
    | .fn _ _ => some (.struct [.scalar 8, .scalar 8, .scalar 8])
    | .write => some (.scalar 8)
    | .unit => some .unit
    | _ => none

open DiplomatModel.Lower DiplomatModel.AbiGen in
/-- the result struct of a method returning `Result` / a non-pointer `Option` -/
def wireResult (env : Env) (fuel : Nat) : Option TyName → Option WTy
  | some (.res ok err _) =>
    match wireOf env fuel ok, wireOf env fuel err with
    | some a, some b => some (.result a b)
    | _, _ => none
  | some (.opt v _) =>
    match v with
    | .box _ => none
    | .ref .. => none
    | v => (wireOf env fuel v).map fun a => .result a .unit
  | _ => none

def natsStr (l : List Nat) : String := " ".intercalate (l.map toString)

open DiplomatModel.Lower DiplomatModel.AbiGen in
/-- `(c01wire PREFIX DECL…)` → the lines the C driver prints from `sizeof` / `_Alignof` / `offsetof`:
    `layout Name size align off…` per non-empty struct and enum, `rs ABI size flag-offset` per result struct -/
def runLine (line : String) : String :=
  match Sexp.parse line with
  | some (.list (.atom "c01wire" :: .atom pfx :: decls)) =>
    match optMapM parseDeclA decls with
    | some ds =>
      let env : Env := ds.map fun t => (t.name, t.def_)
      let fuel := ds.length + 2
      let tys := ds.flatMap fun d =>
        match d.def_ with
        | .struct _ fields =>
          if fields.isEmpty then [] else
          match wireOf env fuel (.named d.name), optMapM (fun f : String × TyName => wireOf env fuel f.2) fields with
          | some w, some fs => ["layout " ++ d.name ++ " " ++ natsStr ([size w, align w] ++ offsets fs)]
          | _, _ => ["layout " ++ d.name ++ " ?"]
        | .enumTy => ["layout " ++ d.name ++ " 4 4"]
        | _ => []
      let rs := ds.flatMap fun d => d.methods.flatMap fun m =>
        match wireResult env fuel m.ret with
        | some (.result a b) => ["rs " ++ abiName pfx d.name m.name ++ " " ++ natsStr [size (.result a b), flagOffset a b]]
        | _ => []
      " ;; ".intercalate (tys ++ rs)
    | none => "bad-case"
  | _ => "bad-case"

end DiplomatModel.Wire
